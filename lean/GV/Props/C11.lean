/-
  Props/C11.lean — Server misbehaviour or odd event timing gives a clean error, never a panic.
  About Model/Engine.lean: the error discipline of `handle_network_event` / `service` and the Halted state.
  (Byte-level robustness of the decoder — no panic site, terminal errors — is Props/C03.)
-/
import GV.Proofs.EngineState
import GV.Proofs.EngineNoPanic
namespace GV.Props.C11
open GV

/-- **Any error from a network event halts the engine.** -/
theorem error_halts (x : Engine × Res) (k : String) (h : x.2 = .err k) : (haltOnErr x).1.state = .halted ∧ (haltOnErr x).2 = .err k := by
  simp [haltOnErr, h]

theorem success_does_not_halt (x : Engine × Res) (h : x.2 = .ok) : haltOnErr x = x := by
  simp [haltOnErr, h]

/-- **A halted engine accepts no more traffic and emits nothing**: data, write completions and service calls
    are answered with an error, produce no bytes, no completions and no events, and leave it halted. -/
theorem halted_rejects_data (e : Engine) (t : Nat) (bs : Bytes) (h : e.state = .halted) :
    (step e (.data t bs)).2.result = .err "InternalStateError" ∧ (step e (.data t bs)).2.bytes = [] ∧
    (step e (.data t bs)).2.completions = [] ∧ (step e (.data t bs)).2.events = [] ∧ (step e (.data t bs)).1.state = .halted := by
  simp [step, Engine.begin, Engine.handleData, h, haltOnErr, Engine.finish]

theorem halted_service (e : Engine) (t cap pre : Nat) (h : e.state = .halted) :
    (step e (.service t cap pre)).2.result = .err "InternalStateError" ∧ (step e (.service t cap pre)).2.bytes = [] ∧
    (step e (.service t cap pre)).2.completions = [] ∧ (step e (.service t cap pre)).2.events = [] ∧
    (step e (.service t cap pre)).1.state = .halted := by
  simp [step, Engine.begin, Engine.service, Engine.serviceCore, h, Engine.finish]

theorem halted_rejects_service (e : Engine) (t cap pre : Nat) (h : e.state = .halted) :
    (step e (.service t cap pre)).2.result = .err "InternalStateError" ∧ (step e (.service t cap pre)).2.bytes = [] ∧
    (step e (.service t cap pre)).2.completions = [] ∧ (step e (.service t cap pre)).1.state = .halted :=
  let x := halted_service e t cap pre h
  ⟨x.1, x.2.1, x.2.2.1, x.2.2.2.2⟩

theorem halted_write_completion (e : Engine) (t : Nat) (h : e.state = .halted) :
    (step e (.writeDone t)).2.result = .err "InternalStateError" ∧ (step e (.writeDone t)).2.bytes = [] ∧
    (step e (.writeDone t)).2.events = [] ∧ (step e (.writeDone t)).1.state = .halted := by
  simp [step, Engine.begin, Engine.handleWriteCompletion, h, haltOnErr, Engine.finish]

theorem halted_rejects_write_completion (e : Engine) (t : Nat) (h : e.state = .halted) :
    (step e (.writeDone t)).2.result = .err "InternalStateError" ∧ (step e (.writeDone t)).2.bytes = [] ∧
    (step e (.writeDone t)).1.state = .halted :=
  let x := halted_write_completion e t h
  ⟨x.1, x.2.1, x.2.2.2⟩

/-- a halted engine asks for no further service -/
theorem halted_wants_no_service (e : Engine) (h : e.state = .halted) : e.nextServiceTime = some none := by
  simp [Engine.nextServiceTime, h]

/-- **The close event brings the engine — halted by an error or not — back to Disconnected**, ready for the
    next connection, whatever else the close handler does. -/
theorem close_recovers (e : Engine) (h : e.state ≠ .disconnected) : (e.handleClosed).1.state = .disconnected :=
  handleClosed_state e h

/-- **Bad bytes do not hide what came before them**: what a read does is what its well-formed packets do, one after the
    other, and only then the verdict on the rest of the read - a well-formed PUBLISH or acknowledgement is handled the same
    whether the bytes that break the stream arrive in the same read or in the next one. -/
theorem bad_bytes_do_not_hide_what_came_before (e : Engine) (bs : Bytes) (hs : e.state = .connected ∨ e.state = .pendingDisconnect) :
    let r := decodeBytes { version := e.cfg.version, maxSize := e.inboundMax } e.dec bs
    let x := ({ e with dec := r.dec } : Engine).handlePackets r.packets
    (x.2.isOk = false → e.handleData bs = x) ∧
    (x.2.isOk = true → r.err = none → e.handleData bs = (x.1, .ok)) ∧
    (x.2.isOk = true → ∀ d, r.err = some d → (e.handleData bs).1 = { x.1 with state := .halted } ∧ ∃ k, (e.handleData bs).2 = .err k) := by
  have h1 : (e.state == .disconnected || e.state == .halted) = false := by rcases hs with h | h <;> simp [h]
  have h2 : (e.state == .pendingConnack) = false := by rcases hs with h | h <;> simp [h]
  simp only []
  refine ⟨fun hx => ?_, fun hx he => ?_, fun hx d he => ?_⟩
  · simp [Engine.handleData, h1, h2, hx]
  · simp [Engine.handleData, h1, h2, hx, he]
  · simp [Engine.handleData, h1, h2, hx, he]

/-- **A decoding failure in inbound data halts the engine and leaves every tracked operation and every queue as it was**
    (they survive for the next connection or for failure by policy) - here for a read that holds nothing well-formed in front of
    the bad bytes; well-formed packets in front of them are handled first, exactly as if they had arrived in an earlier read
    (`bad_bytes_do_not_hide_what_came_before`). -/
theorem decode_error_keeps_operations (e : Engine) (bs : Bytes) (hs : e.state = .connected ∨ e.state = .pendingDisconnect)
    (x : DecErr)
    (hd : (decodeBytes { version := e.cfg.version, maxSize := e.inboundMax } e.dec bs).err = some x)
    (hp : (decodeBytes { version := e.cfg.version, maxSize := e.inboundMax } e.dec bs).packets = []) :
    let e' := (e.handleData bs).1
    e'.state = .halted ∧ e'.ops = e.ops ∧ e'.userQ = e.userQ ∧ e'.resubQ = e.resubQ ∧ e'.highQ = e.highQ ∧
    e'.pendingPub = e.pendingPub ∧ e'.pendingNonPub = e.pendingNonPub ∧ e'.outBytes = e.outBytes ∧ e'.outComps = e.outComps ∧
    (∃ k, (e.handleData bs).2 = .err k) := by
  have h := (bad_bytes_do_not_hide_what_came_before e bs hs).2.2
  simp only [hp, Engine.handlePackets] at h
  obtain ⟨h1, hk⟩ := h rfl x hd
  simp only [h1, true_and]
  exact hk

/-- AUTH is answered with an error, not a panic -/
theorem auth_is_an_error (e : Engine) (a : Auth) : e.handlePacket (.auth a) = (e, .err "Unimplemented") := rfl

/-- packets only a client sends (CONNECT, SUBSCRIBE, UNSUBSCRIBE, PINGREQ) are a protocol error when received -/
theorem client_packets_are_errors (e : Engine) :
    (∀ c, e.handlePacket (.connect c) = (e, .err "ProtocolError")) ∧ (∀ s, e.handlePacket (.subscribe s) = (e, .err "ProtocolError")) ∧
    (∀ s, e.handlePacket (.unsubscribe s) = (e, .err "ProtocolError")) ∧ e.handlePacket .pingreq = (e, .err "ProtocolError") :=
  ⟨fun _ => rfl, fun _ => rfl, fun _ => rfl, rfl⟩

/-- an acknowledgement for a packet id nothing is waiting on is a protocol error and completes nothing -/
theorem unknown_ack_is_error (e : Engine) (a : Ack) (hs : stateBlocksAcks e.state = false) (hl : e.pendingPub.lookup a.packetId = none) :
    e.handlePuback a = (e, .err "ProtocolError") ∧ e.handlePubrec a = (e, .err "ProtocolError") ∧
    e.handlePubcomp a = (e, .err "ProtocolError") := by
  simp [Engine.handlePuback, Engine.handlePubrec, Engine.handlePubcomp, hs, hl]

theorem unknown_suback_is_error (e : Engine) (s : Suback) (hs : stateBlocksAcks e.state = false) (hl : e.pendingNonPub.lookup s.packetId = none) :
    e.handleSuback s = (e, .err "ProtocolError") ∧ e.handleUnsuback s = (e, .err "ProtocolError") := by
  simp [Engine.handleSuback, Engine.handleUnsuback, hs, hl]

/-! ### after an error: every continuation until the connection is closed -/

/-- events a driver may still deliver to a halted engine before it closes the connection (everything except
    "connection closed" and the client-level reset) -/
def beforeClose : Event → Bool
  | .closed _ => false
  | .reset _ => false
  | _ => true

/-- `enqueue_operation` touches the two queues only -/
theorem enqueue_shape (e : Engine) (id : Nat) (q : QueueKind) (front : Bool) (e2 : Engine) (h : e.enqueue id q front = some e2) :
    ∃ uq hq, e2 = { e with userQ := uq, highQ := hq } := by
  rw [enqueue_some h]
  cases q
  · exact ⟨_, e.highQ, rfl⟩
  · exact ⟨e.userQ, _, rfl⟩

theorem submit_halted (e : Engine) (packet : Packet) (user : Option (Nat × Option Nat)) (q : QueueKind) (front : Bool) (h : e.state = .halted) :
    (e.submit packet user q front).1.state = .halted ∧ (e.submit packet user q front).1.outBytes = e.outBytes ∧
    (e.submit packet user q front).1.outEvents = e.outEvents := by
  have hc : (e.createOp packet user).1.state = .halted ∧ (e.createOp packet user).1.outBytes = e.outBytes ∧
      (e.createOp packet user).1.outEvents = e.outEvents := ⟨h, rfl, rfl⟩
  rw [submit_eq]
  by_cases hpol : (!(e.createOp packet user).1.opPassesPolicy packet) = true
  · rw [if_pos hpol]
    have hs := completeFailure_state (e.createOp packet user).1 e.nextOpId "OfflineQueuePolicyFailed" (by rw [hc.1]; decide)
    have hk := completeFailure_same (e.createOp packet user).1 e.nextOpId "OfflineQueuePolicyFailed"
    exact ⟨hs.trans hc.1, hk.outBytes.trans hc.2.1, hk.outEvents.trans hc.2.2⟩
  · rw [if_neg hpol]
    cases q
    · exact hc
    · exact hc

theorem handleUser_halted (e : Engine) (u : UserEvent) (h : e.state = .halted) :
    (e.handleUser u).1.state = .halted ∧ (e.handleUser u).1.outBytes = e.outBytes ∧ (e.handleUser u).1.outEvents = e.outEvents := by
  unfold Engine.handleUser
  cases u <;> exact submit_halted e _ _ _ _ h

/-- **A halted engine stays halted and silent under every event a driver can still deliver before it closes the
    connection** — user submissions, inbound bytes, write completions, service calls, time queries, even a
    spurious "connection opened": no byte is emitted, no packet is surfaced, and the state stays Halted. -/
theorem halted_step_silent (e : Engine) (ev : Event) (h : e.state = .halted) (hb : beforeClose ev = true) :
    (step e ev).1.state = .halted ∧ (step e ev).2.bytes = [] ∧ (step e ev).2.events = [] := by
  cases ev with
  | closed t => simp [beforeClose] at hb
  | reset t => simp [beforeClose] at hb
  | user t u =>
    have hu := handleUser_halted (e.begin t) u (by simp [Engine.begin, h])
    simp only [step, Engine.finish]
    exact ⟨hu.1, by rw [hu.2.1]; rfl, by rw [hu.2.2]; rfl⟩
  | opened t d =>
    have hs : ((e.begin t).state != .disconnected) = true := by simp [Engine.begin, h]
    have ho : (e.begin t).handleOpened d = ({ (e.begin t) with state := .halted }, .err "InternalStateError") := by
      rw [handleOpened_eq, if_pos hs]
    simp only [step]
    rw [ho]
    simp [haltOnErr, Engine.finish, Engine.begin]
  | data t bs =>
    let x := halted_rejects_data e t bs h
    exact ⟨x.2.2.2.2, x.2.1, x.2.2.2.1⟩
  | writeDone t =>
    let x := halted_write_completion e t h
    exact ⟨x.2.2.2, x.2.1, x.2.2.1⟩
  | service t cap pre =>
    let x := halted_service e t cap pre h
    exact ⟨x.2.2.2.2, x.2.1, x.2.2.2.1⟩
  | queryNext t => simp [step, Engine.begin, h]

/-- **Every continuation.**  After an error has halted the engine, for every sequence of such events, of any length
    and in any order, the engine emits nothing at all and accepts no traffic, until the connection is closed. -/
theorem halted_run_silent (evs : List Event) : ∀ (e : Engine), e.state = .halted → (∀ ev ∈ evs, beforeClose ev = true) →
    (evs.foldl (fun (acc : Engine × Bytes × List Packet) ev =>
        let (e', o) := step acc.1 ev
        (e', acc.2.1 ++ o.bytes, acc.2.2 ++ o.events)) (e, [], [])).2 = ([], []) ∧
    (evs.foldl (fun (acc : Engine × Bytes × List Packet) ev =>
        let (e', o) := step acc.1 ev
        (e', acc.2.1 ++ o.bytes, acc.2.2 ++ o.events)) (e, [], [])).1.state = .halted := by
  induction evs with
  | nil => intro e h _; exact ⟨rfl, h⟩
  | cons ev rest ih =>
    intro e h hall
    have hs := halted_step_silent e ev h (hall ev (List.mem_cons_self ..))
    simp only [List.foldl, hs.2.1, hs.2.2, List.append_nil]
    exact ih (step e ev).1 hs.1 (fun x hx => hall x (List.mem_cons_of_mem _ hx))

/-! ### every history -/

/-- **The engine never panics.**  After any sequence of events whatsoever from a fresh engine - user submissions, opened /
    closed notifications, any inbound bytes, write completions, service calls with any clock and buffer, time queries,
    resets, in any order, legal for a driver or not, under any configuration - the next event, whatever it is, is answered
    with success or with an error value: none of the engine's `unwrap()`, `assert!` or `panic!` sites (every one of them is
    an explicit `Res.panic` outcome of the model: missing operation, missing negotiated settings, missing CONNACK timeout,
    slow-start underflow, the five assertions of `apply_session_present_to_connection`, a completion without result, a
    pending publish that is no publish) is reachable.  The one demand on the driver: a service call offers room for a
    fixed header (capacity ≥ 4, `Event.capOk`) - below that the encoder itself refuses (`encode_target_buffer_too_small`),
    and both drivers use 4 KiB and more. -/
theorem engine_never_panics (cfg : Config) (evs : List Event) (ev : Event) (hcap : ev.capOk) (site : String) :
    (step (runEvents (Engine.new cfg) evs).1 ev).2.result ≠ .panic site :=
  step_np _ ev (inv2_after cfg evs) hcap site

/-- the capacity demand is needed: with room for less than a fixed header the encoder's own check fires -/
example : (step (step (Engine.new {}) (.opened 0 100)).1 (.service 0 3 0)).2.result = .panic "encode_target_buffer_too_small" := by
  decide

/-- non-vacuity: the same history with a 64-byte buffer writes the CONNECT -/
example : (step (step (Engine.new {}) (.opened 0 100)).1 (.service 0 64 0)).2.result = .ok := by decide

/-- **The inbound size limit is in force only where the CONNECT announces it.**  Under MQTT 3.1.1 - whose CONNECT has no
    Maximum Packet Size - the decoder is given the protocol's own limit whatever the connect options say, so a server that
    sends a large packet follows the protocol and is not reported as violating it; under MQTT 5 the configured value (sent in
    the CONNECT) is the limit, and none configured means the protocol's limit. -/
theorem inbound_limit_only_where_announced (e : Engine) :
    (e.cfg.version = .v311 → e.inboundMax = maxPacket) ∧
    (e.cfg.version = .v5 → e.inboundMax = e.cfg.connect.maximumPacketSize.getD maxPacket) := by
  unfold Engine.inboundMax
  constructor
  · intro h; rw [h]; rfl
  · intro h; rw [h]; rfl

/-- **Session Present = 1 in answer to a clean start is a protocol error** ([MQTT-3.2.2-1], [MQTT-3.2.2-2], [MQTT-3.2.2-4]): a successful CONNACK that
    reports a session although the CONNECT of this connection asked for a clean start / clean session fails the connection;
    nothing is taken for resumed. -/
theorem session_present_after_clean_start_is_refused (e : Engine) (c : Connack) (hs : e.state = .pendingConnack)
    (hrc : c.reasonCode = 0) (hv : vConnackInbound c = .ok ()) (hsp : c.sessionPresent = true) (hcl : e.connectClean = true) :
    e.handleConnack c = (e, .err "ProtocolError") := by
  unfold Engine.handleConnack
  simp [hs, hrc, hv, hsp, hcl]

/-- the flag is the Clean Start of the CONNECT queued for this connection -/
theorem opened_records_clean_start (e : Engine) (d : Nat) (hs : e.state = .disconnected) :
    (e.handleOpened d).1.connectClean = connectIsClean e.createConnect := by
  rw [handleOpened_eq, if_neg (by rw [hs]; decide)]
  rfl

end GV.Props.C11
