/-
  Props/C08.lean — Service-time contract never strands work.
  About Model/Engine.lean: `get_next_service_timepoint*` (protocol.rs).
-/
import GV.Proofs.EngineBasics
import GV.Proofs.EngineWrite
namespace GV.Props.C08
open GV

/-- the time `t` is set and not later than `d` -/
abbrev AtMost (t : Option Nat) (d : Nat) : Prop := ∃ y, t = some y ∧ y ≤ d

theorem minOpt_le_left {a : Option Nat} {d : Nat} (b : Option Nat) (h : AtMost a d) : AtMost (minOpt a b) d := by
  obtain ⟨x, rfl, hx⟩ := h
  cases b with
  | none => exact ⟨x, rfl, hx⟩
  | some z =>
    simp only [minOpt]
    split
    · exact ⟨x, rfl, hx⟩
    · exact ⟨z, rfl, by omega⟩

theorem minOpt_le_right {b : Option Nat} {d : Nat} (a : Option Nat) (h : AtMost b d) : AtMost (minOpt a b) d := by
  obtain ⟨x, rfl, hx⟩ := h
  cases a with
  | none => exact ⟨x, rfl, hx⟩
  | some z =>
    simp only [minOpt]
    split
    · exact ⟨z, rfl, by omega⟩
    · exact ⟨x, rfl, hx⟩

theorem foldTime_eq_minOpt (base : Option Nat) (d : Nat) : foldTime base d = minOpt base (some d) := by
  cases base <;> rfl

/-- **Sendable high-priority work wakes the engine now**: with no write pending and something in the
    high-priority queue (an ack to send, a PUBREL, a PINGREQ, the CONNECT, a DISCONNECT) or an operation half
    encoded, the queue wants service at the current time. -/
theorem high_priority_work_wakes_now (e : Engine) (all : Bool) (hw : e.pendingWrite = false)
    (h : e.current.isSome = true ∨ e.highQ ≠ []) : e.nextQueueTime all = some e.now := by
  simp only [Engine.nextQueueTime, hw, Bool.false_eq_true, ↓reduceIte]
  rcases h with h | h
  · simp only [h, ↓reduceIte]
  · simp only [List.isEmpty_eq_false_iff.mpr h, Bool.not_false, ↓reduceIte, ite_self]

/-- **Queued user work wakes the engine now** when connected, unless it is legitimately held back (write
    pending, slow start with an ack outstanding, receive maximum reached for a QoS 1/2 publish at the head). -/
theorem user_work_wakes_now (e : Engine) (hw : e.pendingWrite = false) (hc : e.current = none) (hq : e.highQ = [])
    (hth : (e.slowStartThrottled && e.hasPendingAck) = false) (hset : e.settings = none ∨ ∃ s, e.settings = some s ∧ e.pendingPub.length < s.receiveMaximum)
    (hwork : e.resubQ ≠ [] ∨ e.userQ ≠ []) : e.nextQueueTime true = some e.now := by
  have hne : (!e.resubQ.isEmpty || !e.userQ.isEmpty) = true := by
    rcases hwork with h | h
    · rw [List.isEmpty_eq_false_iff.mpr h]; rfl
    · rw [List.isEmpty_eq_false_iff.mpr h]; exact Bool.or_true _
  simp only [Engine.nextQueueTime, hw, hc, hq, hth, hne, Bool.false_eq_true, ↓reduceIte, Option.isSome_none, List.isEmpty_nil, Bool.not_true]
  rcases hset with h | ⟨s, h, hlt⟩
  · simp only [h, Bool.false_eq_true, ↓reduceIte]
  · simp only [h, ge_iff_le, Nat.not_le_of_gt hlt, Bool.false_eq_true, ↓reduceIte]

/-- the fold picking the earliest record: its result is not later than any record it has seen -/
theorem foldl_earliest_le (l : List (Nat × Nat)) (init : Option (Nat × Nat)) (y : Nat × Nat) (h : y ∈ l ∨ init = some y) :
    ∃ b, l.foldl (fun best x => match best with | none => some x | some b => if x.2 < b.2 then some x else some b) init = some b ∧
      b.2 ≤ y.2 := by
  induction l generalizing init y with
  | nil =>
    rcases h with h | h
    · cases h
    · exact ⟨y, h, Nat.le_refl _⟩
  | cons z zs ih =>
    rw [List.foldl_cons]
    rcases h with h | h
    · rcases List.mem_cons.mp h with rfl | h
      · cases init with
        | none => exact ih _ y (.inr rfl)
        | some i =>
          by_cases hlt : y.2 < i.2
          · exact ih _ y (.inr (if_pos hlt))
          · obtain ⟨b, hb, hle⟩ := ih _ i (.inr (if_neg hlt))
            exact ⟨b, hb, by omega⟩
      · exact ih _ y (.inl h)
    · subst h
      by_cases hlt : z.2 < y.2
      · obtain ⟨b, hb, hle⟩ := ih _ z (.inr (if_pos hlt))
        exact ⟨b, hb, by omega⟩
      · exact ih _ y (.inr (if_neg hlt))

/-- folding in the earliest ack timeout keeps the result below what it was, and brings it below every record that is not
    the one of the operation being written -/
theorem foldAckTimeout_le_base (e : Engine) {t0 : Option Nat} {d : Nat} (h : AtMost t0 d) : AtMost (e.foldAckTimeout t0) d := by
  unfold Engine.foldAckTimeout
  split
  · rw [foldTime_eq_minOpt]; exact minOpt_le_left _ h
  · exact h

theorem foldAckTimeout_le_record (e : Engine) (t0 : Option Nat) (id d : Nat) (hmem : (id, d) ∈ e.timeouts) (hne : e.current ≠ some id) :
    AtMost (e.foldAckTimeout t0) d := by
  have hf : (id, d) ∈ e.timeouts.filter (fun x => e.current != some x.1) :=
    List.mem_filter.mpr ⟨hmem, bne_iff_ne.mpr hne⟩
  obtain ⟨b, hb, hle⟩ := foldl_earliest_le _ none _ (.inl hf)
  have hnd : e.nextDueTimeout = some b := hb
  simp only [Engine.foldAckTimeout, hnd, foldTime_eq_minOpt]
  exact minOpt_le_right _ ⟨b.2, rfl, hle⟩

/-- **Connected: the reported time is never later than due queue work, the ping deadline, the next ping
    (when no write is pending) or the ack timeout of ANY operation that is not being written** (the record of the operation
    being written is deferred until its packet is complete, and hides no other record). -/
theorem connected_time_covers_all_work (e : Engine) (hs : e.state = .connected) :
    ∃ t, e.nextServiceTime = some t ∧
      (∀ d, e.pingDeadline = some d → ∃ y, t = some y ∧ y ≤ d) ∧
      (∀ id d, (id, d) ∈ e.timeouts → e.current ≠ some id → ∃ y, t = some y ∧ y ≤ d) ∧
      (e.pendingWrite = false → ∀ np, e.nextPing = some np → ∃ y, t = some y ∧ y ≤ np) ∧
      (e.pendingWrite = false → ∀ q, e.nextQueueTime true = some q → ∃ y, t = some y ∧ y ≤ q) := by
  simp only [Engine.nextServiceTime, hs]
  have hping : ∀ d, e.pingDeadline = some d → AtMost (e.foldAckTimeout (minOpt none e.pingDeadline)) d :=
    fun d hd => foldAckTimeout_le_base e (minOpt_le_right none ⟨d, hd, Nat.le_refl d⟩)
  have hack := foldAckTimeout_le_record e (minOpt none e.pingDeadline)
  generalize e.foldAckTimeout (minOpt none e.pingDeadline) = t1 at hping hack ⊢
  cases hw : e.pendingWrite with
  | true => exact ⟨t1, rfl, hping, hack, nofun, nofun⟩
  | false =>
    exact ⟨_, rfl, fun d hd => minOpt_le_right _ (minOpt_le_left _ (hping d hd)),
      fun id d hn hne => minOpt_le_right _ (minOpt_le_left _ (hack id d hn hne)),
      fun _ np hnp => minOpt_le_right _ (minOpt_le_right _ ⟨np, hnp, Nat.le_refl np⟩),
      fun _ q hq => minOpt_le_left _ ⟨q, hq, Nat.le_refl q⟩⟩

/-- handshake: the reported time never exceeds the CONNACK deadline -/
theorem handshake_time_covers_deadline (e : Engine) (d : Nat) (hs : e.state = .pendingConnack) (hd : e.connackDeadline = some d) :
    ∃ y, e.nextServiceTime = some (some y) ∧ y ≤ d := by
  simp only [Engine.nextServiceTime, hs, hd]
  obtain ⟨y, hy, hle⟩ := minOpt_le_right (e.nextQueueTime false) ⟨d, rfl, Nat.le_refl d⟩
  exact ⟨y, by rw [foldTime_eq_minOpt, hy], hle⟩

/-- **No idle spinning on a pending write**: while a write is pending the queue never asks for service. -/
theorem no_queue_wakeup_while_write_pending (e : Engine) (all : Bool) (h : e.pendingWrite = true) : e.nextQueueTime all = none := by
  simp [Engine.nextQueueTime, h]

/-- a halted or disconnected engine asks for no service -/
theorem idle_states_ask_nothing (e : Engine) (h : e.state = .halted ∨ e.state = .disconnected) : e.nextServiceTime = some none := by
  rcases h with h | h <;> simp [Engine.nextServiceTime, h]

/-! ### every history: the write path never strands an operation -/

/-- **An operation that waits for a write completion has a write pending.**  After any history (service calls offering room for
    a fixed header): the written-but-unflushed list is empty unless the driver owes the engine a write completion - so the
    result of a QoS 0 publish (and every other operation completed by the write itself) is never left waiting for an event that
    will not come.  The reported next-service time may be 'never' only because that completion is due. -/
theorem unflushed_operation_has_a_write_pending (cfg : Config) (evs : List Event) (hc : ∀ ev ∈ evs, ev.capOk)
    (h : (runEvents (Engine.new cfg) evs).1.pendingWC ≠ []) : (runEvents (Engine.new cfg) evs).1.pendingWrite = true :=
  (pw_after cfg evs hc).1 h

/-- **The operation being written always has a byte left to write**: while the engine runs, a current operation has encoding
    steps left and they begin with a step that emits a byte - a packet whose last byte is out is never still "being written". -/
theorem current_operation_has_a_byte_left (cfg : Config) (evs : List Event) (hc : ∀ ev ∈ evs, ev.capOk) (id : Nat)
    (hs : (runEvents (Engine.new cfg) evs).1.state = .connected ∨ (runEvents (Engine.new cfg) evs).1.state = .pendingConnack)
    (hcur : (runEvents (Engine.new cfg) evs).1.current = some id) :
    (runEvents (Engine.new cfg) evs).1.encSteps ≠ [] ∧ GoodHead (runEvents (Engine.new cfg) evs).1.encSteps :=
  (pw_after cfg evs hc).2 hs id hcur

/-- non-vacuity: a QoS 0 publish with an empty payload through an 11-byte buffer (3 bytes left after its last byte) is complete with its last byte, and waits for
    the write completion with a write pending -/
example :
    let e := (runEvents (Engine.new {}) [.opened 0 100, .service 0 64 0, .writeDone 0, .data 0 [32, 3, 0, 0, 0],
      .user 1 (.publish { topic := [116, 47, 49], payload := some [] } 0 none), .service 1 11 0]).1
    (e.pendingWC == [2] && e.pendingWrite && e.current == none) = true := by decide

end GV.Props.C08
