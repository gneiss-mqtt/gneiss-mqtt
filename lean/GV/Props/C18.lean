/-
  Props/C18.lean — Ack timeouts and the interrupted-retry limit fire exactly when specified.
  About Model/Engine.lean: `start_operation_ack_timeout`, `on_current_operation_fully_written`,
  `process_ack_timeouts`, `update_interrupted_retries`, `fail_operations_exceeding_max_interruption_limit`.
-/
import GV.Props.C01
import GV.Props.C07
namespace GV.Props.C18
open GV

/-- **The clock starts when the packet has been completely written** (time spent queued does not count):
    the deadline recorded is the time of that moment plus T; operations without a timeout record nothing. -/
theorem timeout_armed_at_write (e : Engine) (id : Nat) (o : Op) (idx t : Nat) (ho : e.op? id = some o)
    (hq : isQos0Publish o.packet = false)
    (hu : o.user = some (idx, some t)) : (e.startAckTimeout id).timeouts = e.timeouts ++ [(id, e.now + t)] := by
  simp [Engine.startAckTimeout, Op.ackTimeout, ho, hu, hq]

theorem no_timeout_no_record (e : Engine) (id : Nat) (o : Op) (ho : e.op? id = some o)
    (hu : o.user = none ∨ ∃ idx, o.user = some (idx, none)) : (e.startAckTimeout id).timeouts = e.timeouts := by
  rcases hu with h | ⟨idx, h⟩ <;> simp [Engine.startAckTimeout, Op.ackTimeout, ho, h]

/-- **Only acknowledged operations can time out**: a QoS 0 publish - complete once written, with no acknowledgement to wait
    for - never gets a timeout record, whatever its options say. -/
theorem qos0_publish_never_times_out (e : Engine) (id : Nat) (o : Op) (ho : e.op? id = some o)
    (hq : isQos0Publish o.packet = true) : (e.startAckTimeout id).timeouts = e.timeouts := by
  simp [Engine.startAckTimeout, Op.ackTimeout, ho, hq]

/-- the record chosen by `process_ack_timeouts` is a recorded one and never that of the operation being written -/
theorem nextDueTimeout_mem (e : Engine) (x : Nat × Nat) (h : e.nextDueTimeout = some x) :
    x ∈ e.timeouts ∧ e.current ≠ some x.1 := by
  rcases foldl_earliest_mem _ none x h with h1 | h1
  · exact ⟨(List.mem_filter.mp h1).1, nextDueTimeout_not_current e x.1 x.2 h⟩
  · cases h1

/-- **Never earlier than T.**  Whatever else happens in a service call, a recorded timeout whose deadline has
    not been reached is still recorded afterwards — its operation is not failed by the timeout pass. -/
theorem not_before_deadline : ∀ (fuel : Nat) (e : Engine) (x : Nat × Nat), x ∈ e.timeouts → x.2 > e.now →
    x ∈ (Engine.processAckTimeouts fuel e).1.timeouts := fun fuel e x hx hlate =>
    (processAckTimeouts_keeps (fun e' => x ∈ e'.timeouts ∧ x.2 > e'.now)
      (fun e' id d _ hdue ⟨hx', hl'⟩ => by
        have hk := completeFailure_same { e' with timeouts := e'.timeouts.erase (id, d) } id "AckTimeout"
        rw [hk.timeouts, hk.now]
        have hne : x ≠ (id, d) := by rintro rfl; exact Nat.not_le_of_gt hl' hdue
        exact ⟨(List.mem_erase_of_ne hne).mpr hx', hl'⟩) fuel e ⟨hx, hlate⟩).1

/-- **The operation still being written is not timed out**: its record survives the pass whatever its deadline
    (it is applied by the first pass after the packet is complete), and it does not hold back the others. -/
theorem current_operation_deferred : ∀ (fuel : Nat) (e : Engine) (x : Nat × Nat), x ∈ e.timeouts → e.current = some x.1 →
    x ∈ (Engine.processAckTimeouts fuel e).1.timeouts ∧ (Engine.processAckTimeouts fuel e).1.current = e.current := fun fuel e x hx hcur =>
    processAckTimeouts_keeps (fun e' => x ∈ e'.timeouts ∧ e'.current = e.current)
      (fun e' id d hn _ ⟨hx', hc'⟩ => by
        have hk := completeFailure_same { e' with timeouts := e'.timeouts.erase (id, d) } id "AckTimeout"
        rw [hk.timeouts, hk.current]
        have hne : x ≠ (id, d) := by rintro rfl; exact (nextDueTimeout_mem e' _ hn).2 (hc'.trans hcur)
        exact ⟨(List.mem_erase_of_ne hne).mpr hx', hc'⟩) fuel e ⟨hx, rfl⟩

/-- **At the first service at or after T**: one pass with the fuel `service` gives it leaves no record that is due —
    every elapsed timeout of an operation not being written has been applied when the pass returns, and the clock
    has not moved. -/
theorem pass_leaves_nothing_due : ∀ (fuel : Nat) (e : Engine), e.timeouts.length < fuel →
    ∀ id d, (Engine.processAckTimeouts fuel e).1.nextDueTimeout = some (id, d) →
      d > (Engine.processAckTimeouts fuel e).1.now
  | 0, e, h => by omega
  | fuel + 1, e, h => by
    intro id d
    unfold Engine.processAckTimeouts
    cases hn : e.nextDueTimeout with
    | none => intro hh; rw [hn] at hh; cases hh
    | some nd =>
      obtain ⟨id0, d0⟩ := nd
      by_cases hdue : d0 ≤ e.now
      · simp only [hdue, ↓reduceIte]
        have hk := completeFailure_same { e with timeouts := e.timeouts.erase (id0, d0) } id0 "AckTimeout"
        have hmem := (nextDueTimeout_mem e (id0, d0) hn).1
        have hlen : ({ e with timeouts := e.timeouts.erase (id0, d0) }.completeFailure id0 "AckTimeout").1.timeouts.length < fuel := by
          rw [hk.timeouts]
          have := List.length_erase_of_mem hmem
          have := List.length_pos_of_mem hmem
          show (e.timeouts.erase (id0, d0)).length < fuel
          omega
        exact pass_leaves_nothing_due fuel _ hlen id d
      · simp only [hdue, ↓reduceIte]
        intro hh
        rw [hn] at hh
        cases hh
        exact Nat.lt_of_not_le hdue

/-- **The elapsed timeouts are applied before anything in the same service call can fail the connection**: a
    connected engine runs the pass first, so a keep-alive timeout or a write failure found by this very call
    does not carry the timed-out operations - as interrupted ones - over to the next connection. -/
theorem service_applies_due_timeouts_first (e : Engine) (cap prefill : Nat) (hst : e.state = .connected) :
    ((Engine.processAckTimeouts (e.timeouts.length + 1) e).2.isOk = false →
        e.serviceCore cap prefill = Engine.processAckTimeouts (e.timeouts.length + 1) e) ∧
    ((Engine.processAckTimeouts (e.timeouts.length + 1) e).2.isOk = true →
        e.serviceCore cap prefill =
          (let e0 := (Engine.processAckTimeouts (e.timeouts.length + 1) e).1
           let (ea, ra) := e0.serviceKeepAlive
           if !ra.isOk then (ea, ra)
           else
             let (eb, rb) := ea.serviceQueue true cap prefill
             if !rb.isOk then (eb, rb)
             else Engine.processAckTimeouts (eb.timeouts.length + 1) eb)) := by
  unfold Engine.serviceCore
  rw [hst]
  simp only []
  generalize Engine.processAckTimeouts (e.timeouts.length + 1) e = p0
  obtain ⟨e0, r0⟩ := p0
  constructor
  · intro h; simp only [] at h ⊢; simp only [h, Bool.not_false, ↓reduceIte]
  · intro h; simp only [] at h ⊢; simp only [h, Bool.not_true, Bool.false_eq_true, ↓reduceIte]

/-- the pass stops only when the earliest record of the other operations is not yet due -/
theorem pass_continues_while_due (fuel : Nat) (e : Engine) (id d : Nat) (hn : e.nextDueTimeout = some (id, d)) (hdue : d ≤ e.now) :
    Engine.processAckTimeouts (fuel + 1) e =
      (let e1 := { e with timeouts := e.timeouts.erase (id, d) }
       let (e2, r) := e1.completeFailure id "AckTimeout"
       let (e3, r3) := Engine.processAckTimeouts fuel e2
       (e3, r.fold r3)) := by
  simp [Engine.processAckTimeouts, hn, hdue]

/-- **Never if the acknowledgement arrived first**: once an operation has completed it is no longer tracked,
    and a timeout record that outlives it fails nothing and reports nothing. -/
theorem stale_timeout_is_noop (e : Engine) (id : Nat) (k : String) (h : e.op? id = none) :
    e.completeFailure id k = (e, .ok) :=
  completeFailure_none k h

/-- **A due timeout fails its operation with the ack-timeout error** (user operation, still tracked, not the
    one being written). -/
theorem due_timeout_fails_operation (fuel : Nat) (e : Engine) (id d idx : Nat) (o : Op) (t : Option Nat)
    (hn : e.nextDueTimeout = some (id, d)) (hdue : d ≤ e.now)
    (ho : e.op? id = some o) (hu : o.user = some (idx, t)) (hnd : isDisconnect o.packet = false)
    (hss : o.slowStart = 0) :
    ∃ e1, ({ e with timeouts := e.timeouts.erase (id, d) } : Engine).completeFailure id "AckTimeout" = (e1, .ok) ∧
      e1.outComps = e.outComps ++ [(idx, .err "AckTimeout")] ∧ e1.op? id = none :=
  C01.failure_resolves_once { e with timeouts := e.timeouts.erase (id, d) } id idx o t "AckTimeout" ho hu hnd hss

/-! ### interrupted-retry limit -/

/-- **Every disconnection adds one interruption to each operation that was sent but unacknowledged** (and
    to no other operation) when a limit is configured. -/
theorem interruption_counted (e e' : Engine) (limit : Nat) (hl : e.cfg.maxRetries = some limit)
    (h : e.updateInterrupted = some e') (id : Nat) (o : Op) (ho : (id, o) ∈ e.ops) :
    (id, { o with interruptions := o.interruptions + ((e.pendingNonPub.map (·.2)) ++ (e.pendingPub.map (·.2))).count id }) ∈ e'.ops := by
  simp only [Engine.updateInterrupted, hl, Option.isNone_some, Bool.false_eq_true, ↓reduceIte] at h
  split at h
  · simp only [Option.some.injEq] at h
    subst h
    simp only [List.mem_map]
    exact ⟨(id, o), ho, rfl⟩
  · simp at h

theorem no_limit_no_counting (e : Engine) (hl : e.cfg.maxRetries = none) : e.updateInterrupted = some e ∧ e.failExceeding = (e, .ok) := by
  simp [Engine.updateInterrupted, Engine.failExceeding, hl]

/-- the operations failed for exceeding the limit are exactly the unacknowledged ones whose count is above it -/
theorem exceeding_selection (e : Engine) (limit : Nat) (m : List (Nat × Nat)) (id : Nat) :
    id ∈ (m.map (·.2)).filter (fun id => match e.op? id with | some o => o.interruptions > limit | none => false) ↔
    (id ∈ m.map (·.2) ∧ ∃ o, e.op? id = some o ∧ o.interruptions > limit) := by
  simp only [List.mem_filter]
  constructor
  · rintro ⟨hm, hf⟩
    refine ⟨hm, ?_⟩
    cases ho : e.op? id with
    | none => simp [ho] at hf
    | some o => exact ⟨o, rfl, by simpa [ho] using hf⟩
  · rintro ⟨hm, o, ho, hgt⟩
    exact ⟨hm, by simp [ho, hgt]⟩

/-- **The close event applies what has elapsed before it drops the records** (D72): a connection that ends before any
    service call ran after an operation's deadline - the driver delivers the close, or first bytes that do not decode - does not
    carry that operation to the next connection with a fresh clock: the handler is the timeout pass followed by the rest. -/
theorem close_applies_elapsed_timeouts_first (e : Engine) (h : e.state ≠ .disconnected) :
    e.handleClosed =
      (let (ea, ra) := Engine.processAckTimeouts (e.timeouts.length + 1) e
       let (eb, rb) := ea.handleClosedCore
       (eb, (ignoreUserDisconnect ra).fold rb)) := by
  rw [handleClosed_eq, if_neg fun hd => h (eq_of_beq hd)]

/-- after the timeout pass with which the close handler begins, nothing that is due is left for the close to forget -/
theorem nothing_due_is_dropped_at_close (e : Engine) (id d : Nat)
    (hn : (Engine.processAckTimeouts (e.timeouts.length + 1) e).1.nextDueTimeout = some (id, d)) :
    d > (Engine.processAckTimeouts (e.timeouts.length + 1) e).1.now :=
  pass_leaves_nothing_due (e.timeouts.length + 1) e (Nat.lt_succ_self _) id d hn

/-! ### every history -/

/-- **Never for operations without a timeout - after any sequence of events, for any configuration**: every ack-timeout
    record names an operation number that has been handed out, and as long as that operation is tracked it is one that was
    submitted with an ack timeout and is not a QoS 0 publish.  (Part of the engine invariant: `Core.Ok.to`, kept by every
    function of the engine - records are added by `start_operation_ack_timeout` only, operation numbers are never
    re-used, and no update of an operation changes its kind or its owner.) -/
theorem timeout_records_only_for_operations_with_a_timeout (cfg : Config) (evs : List Event) (x : Nat × Nat)
    (hx : x ∈ (runEvents (Engine.new cfg) evs).1.timeouts) :
    x.1 < (runEvents (Engine.new cfg) evs).1.nextOpId ∧
    ∀ o, (runEvents (Engine.new cfg) evs).1.op? x.1 = some o → o.ackTimeout.isSome = true :=
  (inv_after cfg evs).1.to x hx

/-- the timeout pass can never fail an operation that was submitted without an ack timeout, in any history: there is no
    record for it to act on -/
theorem operation_without_timeout_never_times_out (cfg : Config) (evs : List Event) (id : Nat) (o : Op)
    (ho : (runEvents (Engine.new cfg) evs).1.op? id = some o) (hn : o.ackTimeout = none) (d : Nat) :
    (id, d) ∉ (runEvents (Engine.new cfg) evs).1.timeouts := by
  intro hx
  have := (timeout_records_only_for_operations_with_a_timeout cfg evs (id, d) hx).2 o ho
  rw [hn] at this; cases this

/-- **Cleared on disconnect, in any history**: a Disconnected engine, and one waiting for its CONNACK, holds no ack-timeout
    record - an operation carried over to the next connection starts its clock again when it is written there. -/
theorem no_timeout_records_across_connections (cfg : Config) (evs : List Event)
    (hs : (runEvents (Engine.new cfg) evs).1.state = .disconnected ∨ (runEvents (Engine.new cfg) evs).1.state = .pendingConnack) :
    (runEvents (Engine.new cfg) evs).1.timeouts = [] := by
  rcases hs with h | h
  · exact (C07.disconnected_is_clean cfg evs h).2.2.2.2.2
  · exact (C07.handshake_only_connect cfg evs h).2.2.2.2

end GV.Props.C18
