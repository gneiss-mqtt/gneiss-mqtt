/-
  Props/C16.lean — Nothing breaking the server's announced limits or static packet rules is sent.
  The validators (model of validate.rs / mqtt/*::validate_*) are compared with the standard's rules
  (Spec/Validity.lean).  PUBLISH, CONNECT: whatever the validators accept is valid.  SUBSCRIBE, UNSUBSCRIBE: the submission
  check is exactly the static rules and the send-time check exactly the announced limits (Proofs/Filter.lean ties the
  code's one-pass filter scan to the grammar of 4.7 / 4.8.2 for every byte string); D7 and D70 are the two listed exceptions.
-/
import GV.Proofs.Validate
import GV.Proofs.Filter
import GV.Proofs.Vli
namespace GV.Props.C16
open GV

/-- The limits the standard attaches to a CONNACK, read off the negotiated settings. -/
def limitsOf (s : Settings) : Spec.Limits :=
  { maximumQos := s.maximumQos, retainAvailable := s.retainAvailable, maximumPacketSize := s.maximumPacketSize,
    wildcardAvailable := s.wildcardSubsAvailable, subIdAvailable := s.subIdsAvailable,
    sharedAvailable := s.sharedSubsAvailable }

/-- Every user property that passes submission-time validation has a name *and a value* that fit a
    two-byte length prefix — for every packet kind that carries user properties. -/
theorem user_properties_fit (u : UserProps) : vUserProps u = .ok () ↔ Spec.upsOk u = true :=
  vUserProps_ok u

/-- A PUBLISH accepted at submission satisfies every static rule of the standard: valid topic name,
    no wildcard, no zero alias, no subscription identifiers, valid response topic, every string and
    binary field within 65535 bytes. -/
theorem publish_accepted_is_statically_valid (p : Publish) (hq : p.qos ≤ 2)
    (hf : ∀ f, p.payloadFormat = some f → f ≤ 1) :
    validateOutbound (.publish p) = .ok () → Spec.publishStaticOk p = true := by
  unfold validateOutbound vPublishOutbound
  simp only [bind_ok_iff, okIf_ok, vOptLen_ok, vOptStr_ok, vUserProps_ok, isValidTopic_eq]
  intro ⟨_, h2, _, h4, h5, h6, h7, h8, h9, h10⟩
  have hrt : (match p.responseTopic with | none => true | some t => Spec.topicNameValid t) = true := by
    cases hr : p.responseTopic with
    | none => rfl
    | some rt => simp only [hr, bind_ok_iff, okIf_ok] at h7; exact h7.1
  have hpf : (match p.payloadFormat with | none => true | some f => decide (f ≤ 1)) = true := by
    cases hp : p.payloadFormat with
    | none => rfl
    | some f => simp [hf f hp]
  simp only [Spec.publishStaticOk, h4, h6, h8, h9, h10, Bool.and_true, Bool.true_and, Bool.and_eq_true]
  simp at h2 h5
  simp only [hq, h2]
  simp
  exact ⟨⟨h5, hrt⟩, hpf⟩

/-- A PUBLISH that passes last-chance validation respects the server's Maximum QoS and Retain
    Available, and its encoded size (fixed header included) is within Maximum Packet Size. -/
theorem publish_accepted_respects_limits (p : Publish) (s : Settings) (r : Option Resolution) :
    validateOutboundInternal (.publish p) (some s) 0 r = .ok () →
      Spec.publishDynamicOk (limitsOf s) p = true ∧
      ∃ rl pl sz, publishLengths5 p (r.getD {}) = some (rl, pl) ∧ vliSize rl = some sz ∧
        1 + rl + sz ≤ s.maximumPacketSize := by
  unfold validateOutboundInternal vPublishInternal vPublishInternalWith
  simp only [bind_ok_iff, okIf_ok]
  intro ⟨hsize, _, hret, hqos⟩
  constructor
  · simp only [Spec.publishDynamicOk, limitsOf, Bool.and_eq_true]
    simp at hret hqos ⊢
    exact ⟨decide_eq_true hqos, hret⟩
  · unfold sizeCheck at hsize
    cases hl : publishLengths5 p (r.getD {}) with
    | none => simp [hl] at hsize
    | some pr =>
      obtain ⟨rl, pl⟩ := pr
      simp only [hl] at hsize
      cases hv : vliSize rl with
      | none => simp [hv] at hsize
      | some sz =>
        simp only [hv, okIf_ok] at hsize
        exact ⟨rl, pl, sz, rfl, hv, by simpa using hsize⟩

def accepted (r : VRes) : Bool := match r with | .ok _ => true | .error _ => false

/-- the encoded lengths of a PUBLISH are those of the same packet without payload plus the payload's length (what lets the
    correspondence check feed payloads of 4 GiB and more, which no text protocol can carry, as a bare length) -/
theorem publishLengths5_payload (p : Publish) (b : Bytes) (r : Resolution) :
    publishLengths5 { p with payload := some b } r =
      (publishLengths5 { p with payload := none } r).map (fun l => (l.1 + b.length, l.2)) := by
  unfold publishLengths5
  simp only []
  cases subIdsLen p.subscriptionIds with
  | none => rfl
  | some sid =>
    simp only []
    split <;> simp

/-- the lengths of a SUBSCRIBE / UNSUBSCRIBE with `n` more subscriptions / filters of `len` bytes are those of the packet
    without them plus `n * (3 + len)` / `n * (2 + len)`: what lets the correspondence check feed 4 GiB packets as two numbers -/
theorem padded_lengths (p : Subscribe) (u : Unsubscribe) (n len : Nat) :
    subscribeLengths5 { p with subscriptions := p.subscriptions ++ List.replicate n (padSub len) } =
      (subscribeLengths5 p).map (fun l => (l.1 + n * (3 + len), l.2)) ∧
    unsubscribeLengths5 { u with topicFilters := u.topicFilters ++ List.replicate n (List.replicate len 97) } =
      (unsubscribeLengths5 u).map (fun l => (l.1 + n * (2 + len), l.2)) := by
  constructor
  · rw [subscribeLengths5_pad]; simp [padSub]
  · rw [unsubscribeLengths5_pad]; simp

/-- a remaining length that the fixed header cannot express fails the size check, whatever the settings -/
theorem sizeCheck_oversized (rl pl : Nat) (s : Option Settings) (hbig : rl > 268435455) :
    sizeCheck (some (rl, pl)) s = .error .encodingFailure := by
  unfold sizeCheck
  simp only [(vliSize_none_iff rl).mpr hbig]

/-- **A PUBLISH whose encoded size cannot be expressed in the fixed header (remaining length above 268,435,455 - for
    example a payload of 4 GiB) never passes send-time validation**, whatever maximum packet size the server announced: it
    is failed locally instead of being written with a truncated length. -/
theorem oversized_publish_never_accepted (p : Publish) (s : Settings) (r : Option Resolution) (rl pl : Nat)
    (hl : publishLengths5 p (r.getD {}) = some (rl, pl)) (hbig : rl > 268435455) :
    validateOutboundInternal (.publish p) (some s) 0 r = .error .encodingFailure := by
  show vPublishInternalWith (publishLengths5 p (r.getD {})) p (some s) = _
  unfold vPublishInternalWith
  rw [hl, sizeCheck_oversized rl pl _ hbig]
  rfl

/-- **A SUBSCRIBE whose encoded size cannot be expressed in the fixed header never passes send-time validation** - e.g.
    65541 filters of 65535 bytes, 4 GiB: it is failed locally instead of being written with a truncated length. -/
theorem oversized_subscribe_never_accepted (p : Subscribe) (s : Settings) (rl pl : Nat)
    (hl : subscribeLengths5 p = some (rl, pl)) (hbig : rl > 268435455) :
    validateOutboundInternal (.subscribe p) (some s) 0 none = .error .encodingFailure := by
  show vSubscribeInternalWith (subscribeLengths5 p) p (some s) = _
  unfold vSubscribeInternalWith
  rw [hl, sizeCheck_oversized rl pl _ hbig]
  rfl

theorem oversized_unsubscribe_never_accepted (p : Unsubscribe) (s : Settings) (rl pl : Nat)
    (hl : unsubscribeLengths5 p = some (rl, pl)) (hbig : rl > 268435455) :
    validateOutboundInternal (.unsubscribe p) (some s) 0 none = .error .encodingFailure := by
  show vUnsubscribeInternalWith (unsubscribeLengths5 p) p (some s) = _
  unfold vUnsubscribeInternalWith
  rw [hl, sizeCheck_oversized rl pl _ hbig]
  rfl

/-- **The CONNECT built from the options passes validation only if its will is a valid message**: the will topic and the
    will's response topic are topic names (non-empty, no wildcard, no null character, at most 65535 bytes), every binary
    field of the CONNECT and of the will fits its two-byte length prefix, and every string field does so and is free of the
    null character ([MQTT-1.5.4-2]). -/
theorem connect_accepted_has_valid_will (c : Connect) (w : Publish) (hw : c.will = some w) :
    validateOutbound (.connect c) = .ok () →
      Spec.topicNameValid w.topic = true ∧
      (∀ rt, w.responseTopic = some rt → Spec.topicNameValid rt = true) ∧
      Spec.optOk w.payload = true ∧ Spec.optStrOk w.contentType = true ∧ Spec.optOk w.correlationData = true ∧
      Spec.optStrOk w.responseTopic = true ∧ Spec.upsOk w.userProps = true ∧
      Spec.optStrOk c.clientId = true ∧ Spec.optStrOk c.username = true ∧ Spec.optOk c.password = true ∧
      Spec.upsOk c.userProps = true := by
  unfold validateOutbound vConnectOutbound
  simp only [hw, bind_ok_iff, okIf_ok, vOptLen_ok, vOptStr_ok, vUserProps_ok, isValidTopic_eq]
  intro ⟨h1, _, _, _, _, _, h7, h8, h9, h10, h11, h12, h13, _, h15, h16, h17⟩
  refine ⟨h16, ?_, h15, h10, h12, h11, h13, h1, h7, h8, h9⟩
  intro rt hrt
  rw [hrt] at h17
  simpa only [okIf_ok] using h17

/-- an invalid will topic (empty, or with a wildcard) fails the CONNECT locally -/
example :
    (!accepted (validateOutbound (.connect { will := some { topic := [97, 47, 35] } })) &&
     !accepted (validateOutbound (.connect { will := some { topic := [] } })) &&
     !accepted (validateOutbound (.connect { will := some { topic := [97], responseTopic := some [114, 47, 43] } })) &&
     accepted (validateOutbound (.connect { will := some { topic := [97, 47, 98], responseTopic := some [114] } }))) = true := by
  decide

theorem all_congr_mem {α : Type} (l : List α) (f g : α → Bool) (h : ∀ x ∈ l, f x = g x) : l.all f = l.all g := by
  induction l with
  | nil => rfl
  | cons a r ih =>
    simp only [List.all_cons]
    rw [h a (by simp), ih (fun x hx => h x (by simp [hx]))]

/-- one subscription against the static rules: a well-formed filter (4.7, 4.8.2), no No Local on a shared subscription -/
theorem subscription_static (x : Subscription) (hq : x.qos ≤ 2 ∧ x.retainHandling ≤ 2) :
    isValidFilter x.topicFilter (some x.noLocal) =
      (Spec.classify x.topicFilter != .invalid && decide (x.qos ≤ 2) && decide (x.retainHandling ≤ 2)
        && !((Spec.classify x.topicFilter).isShared && x.noLocal)) := by
  rw [isValidFilter_eq]
  have h1 : decide (x.qos ≤ 2) = true := by simpa using hq.1
  have h2 : decide (x.retainHandling ≤ 2) = true := by simpa using hq.2
  rw [h1, h2]
  cases Spec.classify x.topicFilter <;> cases x.noLocal <;> simp [Spec.FilterClass.isShared] <;> rfl

/-- **The submission check of a SUBSCRIBE is exactly the static rules of the standard**: it passes if and only if the
    packet has a non-empty list of well-formed topic filters (wildcards whole levels, '#' last, `$share/{name}/{filter}` with
    a proper name and filter, at most 65535 bytes, no null character), no No Local on a shared subscription
    [MQTT-3.8.3-4], a Subscription Identifier in 1..268,435,455 when it has one, and user properties that fit - nothing
    that breaks a static rule gets past submission, and nothing that keeps them is refused there.  (Quality of service and
    retain handling are enumerations in the code; the model's numbers are bounded by hypothesis.) -/
theorem subscribe_submission_is_the_static_rules (p : Subscribe) (hp : p.packetId = 0)
    (hq : ∀ x ∈ p.subscriptions, x.qos ≤ 2 ∧ x.retainHandling ≤ 2) :
    validateOutbound (.subscribe p) = .ok () ↔ Spec.subscribeStaticOk p = true := by
  unfold validateOutbound vSubscribeOutbound Spec.subscribeStaticOk
  simp only [bind_ok_iff, okIf_ok, vUserProps_ok]
  have hall : p.subscriptions.all (fun x => isValidFilter x.topicFilter (some x.noLocal)) =
      p.subscriptions.all (fun s => Spec.classify s.topicFilter != .invalid && decide (s.qos ≤ 2) && decide (s.retainHandling ≤ 2)
        && !((Spec.classify s.topicFilter).isShared && s.noLocal)) :=
    all_congr_mem _ _ _ (fun x hx => subscription_static x (hq x hx))
  rw [hall]
  have hp' : decide (p.packetId = 0) = true := by simpa using hp
  cases hsid : p.subscriptionId with
  | none =>
    simp only [Bool.and_eq_true, Bool.and_true]
    constructor
    · intro ⟨_, h2, _, h4, h5⟩
      exact ⟨⟨h2, h5⟩, h4⟩
    · intro ⟨⟨h2, h5⟩, h4⟩
      exact ⟨hp', h2, trivial, h4, h5⟩
  | some i =>
    simp only [Bool.and_eq_true, decide_eq_true_eq]
    constructor
    · intro ⟨_, h2, h3, h4, h5⟩
      exact ⟨⟨⟨h2, h5⟩, h4⟩, h3⟩
    · intro ⟨⟨⟨h2, h5⟩, h4⟩, h3⟩
      exact ⟨hp, h2, h3, h4, h5⟩

/-- **The submission check of an UNSUBSCRIBE is exactly the static rules**: a non-empty list of well-formed topic filters and
    user properties that fit. -/
theorem unsubscribe_submission_is_the_static_rules (p : Unsubscribe) (hp : p.packetId = 0) :
    validateOutbound (.unsubscribe p) = .ok () ↔ Spec.unsubscribeStaticOk p = true := by
  unfold validateOutbound vUnsubscribeOutbound Spec.unsubscribeStaticOk
  simp only [bind_ok_iff, okIf_ok, vUserProps_ok]
  have hall : p.topicFilters.all (fun f => isValidFilter f none) = p.topicFilters.all (fun f => Spec.classify f != .invalid) := by
    apply all_congr_mem
    intro f _
    rw [isValidFilter_eq]
    cases Spec.classify f <;> rfl
  rw [hall]
  have hp' : decide (p.packetId = 0) = true := by simpa using hp
  simp only [Bool.and_eq_true]
  constructor
  · intro ⟨_, h2, h3, h4⟩
    exact ⟨⟨h2, h4⟩, h3⟩
  · intro ⟨⟨h2, h4⟩, h3⟩
    exact ⟨hp', h2, h3, h4⟩

/-- the send-time check of one filter is the standard's rule under the limits read off the settings -/
theorem isValidFilterInternal_dynamic (f : Bytes) (s : Settings) (nl : Option Bool) :
    isValidFilterInternal f s nl = Spec.filterDynamicOk (limitsOf s) f (nl == some true) := by
  rw [isValidFilterInternal_eq]
  rfl

/-- **At send time a SUBSCRIBE passes exactly when every filter is within what the server announced**: a wildcard only if
    Wildcard Subscription Available, a shared subscription only if Shared Subscription Available (and not with No Local) -
    for a packet that fits the packet size and carries its identifier.  (The announced Subscription Identifier availability
    is *not* among the checks: known finding D7, pinned by the crate's own tests.) -/
theorem subscribe_send_time_is_the_announced_limits (p : Subscribe) (s : Settings) (hp : p.packetId ≠ 0)
    (hsz : sizeCheck (subscribeLengths5 p) (some s) = .ok ()) :
    vSubscribeInternal p (some s) = .ok () ↔
      p.subscriptions.all (fun x => Spec.filterDynamicOk (limitsOf s) x.topicFilter x.noLocal) = true := by
  unfold vSubscribeInternal vSubscribeInternalWith
  simp only [bind_ok_iff, okIf_ok, hsz, true_and]
  have hall : p.subscriptions.all (fun x => isValidFilterInternal x.topicFilter s (some x.noLocal)) =
      p.subscriptions.all (fun x => Spec.filterDynamicOk (limitsOf s) x.topicFilter x.noLocal) := by
    apply all_congr_mem
    intro x _
    rw [isValidFilterInternal_dynamic]
    cases x.noLocal <;> rfl
  rw [hall]
  simp [hp]

/-- **Known finding D70, as a theorem about the code**: at send time an UNSUBSCRIBE is held to the limits the standard sets
    for SUBSCRIBE - its filters must pass the wildcard / shared availability the server announced - although 3.2.2.3.11 and
    3.2.2.3.13 restrict only the SUBSCRIBE packet.  "Never rejected when valid" therefore holds for UNSUBSCRIBE only as
    `_partial`: for filters without wildcard and share prefix, or servers that announce both available. -/
theorem unsubscribe_send_time_applies_subscribe_limits (p : Unsubscribe) (s : Settings) (hp : p.packetId ≠ 0)
    (hsz : sizeCheck (unsubscribeLengths5 p) (some s) = .ok ()) :
    vUnsubscribeInternal p (some s) = .ok () ↔
      p.topicFilters.all (fun f => Spec.filterDynamicOk (limitsOf s) f false) = true := by
  unfold vUnsubscribeInternal vUnsubscribeInternalWith
  simp only [bind_ok_iff, okIf_ok, hsz, true_and]
  have hall : p.topicFilters.all (fun f => isValidFilterInternal f s none) =
      p.topicFilters.all (fun f => Spec.filterDynamicOk (limitsOf s) f false) := by
    apply all_congr_mem
    intro f _
    exact isValidFilterInternal_dynamic f s none
  rw [hall]
  simp [hp]

theorem unsubscribe_never_rejected_when_valid_partial (p : Unsubscribe) (s : Settings) (hp : p.packetId ≠ 0)
    (hsz : sizeCheck (unsubscribeLengths5 p) (some s) = .ok ())
    (hav : s.wildcardSubsAvailable = true ∧ s.sharedSubsAvailable = true)
    (hv : Spec.unsubscribeDynamicOk (limitsOf s) p = true) :
    vUnsubscribeInternal p (some s) = .ok () := by
  rw [unsubscribe_send_time_applies_subscribe_limits p s hp hsz]
  unfold Spec.unsubscribeDynamicOk at hv
  rw [← hv]
  apply all_congr_mem
  intro f _
  unfold Spec.filterDynamicOk limitsOf
  cases Spec.classify f <;> simp [hav.1, hav.2] <;> rfl

/-- the witness of D70: a valid UNSUBSCRIBE (the standard limits nothing here) that the send-time check refuses -/
example :
    (Spec.unsubscribeStaticOk { topicFilters := [[97, 47, 43]] } &&
     Spec.unsubscribeDynamicOk { wildcardAvailable := false } { topicFilters := [[97, 47, 43]] } &&
     !accepted (vUnsubscribeInternal { packetId := 7, topicFilters := [[97, 47, 43]] } (some { wildcardSubsAvailable := false }))) = true := by
  decide

/-- non-vacuity of the submission theorems: filters on both sides of every clause -/
example :
    (accepted (validateOutbound (.subscribe { subscriptions := [{ topicFilter := [97, 47, 35] }] })) &&
     !accepted (validateOutbound (.subscribe { subscriptions := [{ topicFilter := [97, 47, 35, 47, 98] }] })) &&
     !accepted (validateOutbound (.subscribe { subscriptions := [{ topicFilter := [97, 43] }] })) &&
     !accepted (validateOutbound (.subscribe { subscriptions := [{ topicFilter := [] }] })) &&
     accepted (validateOutbound (.subscribe { subscriptions := [{ topicFilter := [36, 115, 104, 97, 114, 101, 47, 103, 47, 97] }] })) &&
     !accepted (validateOutbound (.subscribe { subscriptions := [{ topicFilter := [36, 115, 104, 97, 114, 101, 47, 103, 47, 97], noLocal := true }] })) &&
     !accepted (validateOutbound (.subscribe { subscriptions := [{ topicFilter := [36, 115, 104, 97, 114, 101, 47, 47, 97] }] })) &&
     !accepted (validateOutbound (.subscribe { subscriptions := [{ topicFilter := [36, 115, 104, 97, 114, 101, 47, 103] }] })) &&
     !accepted (validateOutbound (.unsubscribe { topicFilters := [[97, 0]] })) &&
     accepted (validateOutbound (.unsubscribe { topicFilters := [[43, 47, 43]] }))) = true := by
  decide

example :
    (!accepted (validateOutbound (.subscribe { subscriptions := [{ topicFilter := [97] }], subscriptionId := some 0 })) &&
     !accepted (validateOutbound (.subscribe { subscriptions := [{ topicFilter := [97] }], subscriptionId := some 268435456 })) &&
     accepted (validateOutbound (.subscribe { subscriptions := [{ topicFilter := [97] }], subscriptionId := some 268435455 }))) = true := by
  decide

/-- the null character is refused wherever a UTF-8 string goes: topic name, topic filter, user property, content type -/
example :
    (!accepted (validateOutbound (.publish { topic := [97, 0, 98] })) &&
     !accepted (validateOutbound (.publish { topic := [97], userProps := some [{ name := [107, 0], value := [118] }] })) &&
     !accepted (validateOutbound (.publish { topic := [97], contentType := some [0] })) &&
     accepted (validateOutbound (.publish { topic := [97], correlationData := some [0, 0], payload := some [0] })) &&
     !(filterProps [97, 47, 0, 47, 35]).isValid) = true := by
  decide

def demo : Publish := { topic := [97, 47, 98], qos := 1, packetId := 7, payload := some [1, 2, 3] }

/-- Non-vacuity: a concrete PUBLISH accepted by both validators exactly up to the size limit. -/
example :
    (accepted (validateOutbound (.publish { demo with packetId := 0 })) &&
     accepted (validateOutboundInternal (.publish demo) (some { maximumQos := 1, maximumPacketSize := 13 }) 0 none) &&
     !accepted (validateOutboundInternal (.publish demo) (some { maximumQos := 1, maximumPacketSize := 12 }) 0 none)) = true := by
  decide

end GV.Props.C16
