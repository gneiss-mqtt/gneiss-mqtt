/-
  Props/C01.lean — Every accepted operation resolves exactly once, with its own acknowledgement.
  About Model/Engine.lean: `complete_operation_as_success/failure`, the ack handlers, `reset`.
-/
import GV.Proofs.EngineWFStep
import GV.Proofs.EngineClose
namespace GV.Props.C01
open GV

/-! ### what the other property files use as well -/

/-- after any history the well-formedness clauses hold without exceptions -/
theorem big_after (cfg : Config) (evs : List Event) : Big [] [] (runEvents (Engine.new cfg) evs).1.view :=
  (inv_after cfg evs).2.1

/-- after any history the exclusion clauses hold, with no write in progress counted as filed -/
theorem extra_after (cfg : Config) (evs : List Event) : Extra false [] (runEvents (Engine.new cfg) evs).1.view :=
  (inv2_after cfg evs).2

/-! ### one completion -/

/-- what an operation of this kind may be completed with (`complete_operation_with_result`) -/
theorem result_matches_operation_kind (p : Packet) (c : Option Completion) (res : Completion) (h : resultFor p c = some res) :
    (∃ pb, p = .publish pb ∧ (res = .qos0 ∨ (∃ a b, res = .puback a b) ∨ (∃ a b, res = .pubrec a b) ∨ (∃ a b, res = .pubcomp a b))) ∨
    (∃ s a b, p = .subscribe s ∧ res = .suback a b) ∨ (∃ s a b, p = .unsubscribe s ∧ res = .unsuback a b) := by
  unfold resultFor at h
  split at h <;> cases h
  · exact .inl ⟨_, rfl, .inl rfl⟩
  · exact .inl ⟨_, rfl, .inr (.inl ⟨_, _, rfl⟩)⟩
  · exact .inl ⟨_, rfl, .inr (.inr (.inl ⟨_, _, rfl⟩))⟩
  · exact .inl ⟨_, rfl, .inr (.inr (.inr ⟨_, _, rfl⟩))⟩
  · exact .inr (.inl ⟨_, _, _, rfl, rfl⟩)
  · exact .inr (.inr ⟨_, _, _, rfl, rfl⟩)

theorem applyAckable_unmarked (e : Engine) (o : Op) (hss : o.slowStart = 0) : e.applyAckable o = some e := by
  simp [Engine.applyAckable, hss]

theorem applyDisconnectCompletion_other (e : Engine) (o : Op) (hnd : isDisconnect o.packet = false) :
    e.applyDisconnectCompletion o = (e, .ok) :=
  (applyDisconnectCompletion_cases e o).elim And.right fun h => absurd (hnd ▸ h.1) Bool.false_ne_true

/-- **Success delivers exactly one result and stops tracking the operation**, releasing its packet id. -/
theorem success_resolves_once (e : Engine) (id idx : Nat) (o : Op) (t : Option Nat) (c : Option Completion) (res : Completion)
    (ho : e.op? id = some o) (hu : o.user = some (idx, t)) (hnd : isDisconnect o.packet = false) (hss : o.slowStart = 0)
    (hres : resultFor o.packet c = some res) :
    ∃ e', e.completeSuccess id c = (e', .ok) ∧ e'.outComps = e.outComps ++ [(idx, res)] ∧ e'.op? id = none := by
  have hA := fun en : Engine => applyAckable_unmarked en o hss
  have hD := fun en : Engine => applyDisconnectCompletion_other en o hnd
  have hP : ∀ en : Engine, (en.applyPingExtension o).outComps = en.outComps ∧ (en.applyPingExtension o).ops = en.ops := by
    intro en
    obtain ⟨np, h⟩ := applyPingExtension_only_nextPing en o
    rw [h]; exact ⟨rfl, rfl⟩
  simp only [Engine.completeSuccess, ho, hA, hD, hu, hres, Res.isOk, Bool.not_true, Bool.false_eq_true, ↓reduceIte]
  refine ⟨_, rfl, ?_, ?_⟩
  · simp [Engine.emit, (hP _).1, (releaseIds_ops _ o).2.1]
  · simp [Engine.emit, Engine.op?, (hP _).2, (releaseIds_ops _ o).1, lookup_mapErase_self]

/-- **Failure delivers exactly one error and stops tracking the operation.** -/
theorem failure_resolves_once (e : Engine) (id idx : Nat) (o : Op) (t : Option Nat) (k : String)
    (ho : e.op? id = some o) (hu : o.user = some (idx, t)) (hnd : isDisconnect o.packet = false) (hss : o.slowStart = 0) :
    ∃ e', e.completeFailure id k = (e', .ok) ∧ e'.outComps = e.outComps ++ [(idx, .err k)] ∧ e'.op? id = none := by
  obtain ⟨sc, st, oc, he, _, h⟩ := completeFailure_full e id k ho
  obtain ⟨_, hoc, hr⟩ := h fun _ _ => hss ▸ Nat.zero_le _
  simp only [hnd, hu, Bool.false_eq_true, ↓reduceIte, Option.map, Option.toList] at hoc hr
  refine ⟨(e.completeFailure id k).1, Prod.ext rfl hr, ?_, ?_⟩
  · rw [he]; exact hoc
  · rw [he]; exact lookup_mapErase_self e.ops id

/-- **Never twice.**  Completing an operation that is no longer tracked delivers nothing. -/
theorem second_completion_delivers_nothing (e : Engine) (id : Nat) (c : Option Completion) (k : String) (h : e.op? id = none) :
    (e.completeSuccess id c).1.outComps = e.outComps ∧ (e.completeFailure id k).1.outComps = e.outComps := by
  rw [completeSuccess_none c h, completeFailure_none k h]
  exact ⟨rfl, rfl⟩

/-- **A PUBACK completes only the QoS 1 publish that was sent with its packet id**; an unknown id, or the id of a
    QoS 2 publish, is a protocol error and completes nothing. -/
theorem puback_completes_its_own (e : Engine) (a : Ack) (hs : stateBlocksAcks e.state = false) :
    (e.handlePuback a = (e, .err "ProtocolError")) ∨
    (∃ opId, e.pendingPub.lookup a.packetId = some opId ∧ ((e.op? opId).bind (fun o => publishQos o.packet)) = some 1 ∧
      e.handlePuback a = e.completeSuccess opId (some (.puback a.packetId a.reasonCode))) := by
  simp only [Engine.handlePuback, hs, Bool.false_eq_true, ↓reduceIte]
  cases hl : e.pendingPub.lookup a.packetId with
  | none => left; rfl
  | some opId =>
    simp only []
    split
    · rename_i hq; right; exact ⟨opId, rfl, by simpa using hq, rfl⟩
    · left; rfl

/-- **A SUBACK completes only the SUBSCRIBE sent with its packet id, and only with one reason code per
    requested subscription.** -/
theorem suback_completes_its_own (e : Engine) (s : Suback) (hs : stateBlocksAcks e.state = false) :
    (∃ r, e.handleSuback s = (e, r) ∧ r ≠ .ok) ∨
    (∃ opId o sub, e.pendingNonPub.lookup s.packetId = some opId ∧ e.op? opId = some o ∧ o.packet = .subscribe sub ∧
      s.reasonCodes.length = sub.subscriptions.length ∧
      e.handleSuback s = e.completeSuccess opId (some (.suback s.packetId s.reasonCodes))) := by
  simp only [Engine.handleSuback, hs, Bool.false_eq_true, ↓reduceIte]
  cases hl : e.pendingNonPub.lookup s.packetId with
  | none => exact .inl ⟨_, rfl, nofun⟩
  | some opId =>
    simp only []
    cases ho : e.op? opId with
    | none => exact .inl ⟨_, rfl, nofun⟩
    | some o =>
      simp only []
      split
      · rename_i sub hp
        by_cases hlen : s.reasonCodes.length ≠ sub.subscriptions.length
        · rw [if_pos hlen]; exact .inl ⟨_, rfl, nofun⟩
        · rw [if_neg hlen]; right
          exact ⟨opId, o, sub, rfl, ho, hp, Decidable.not_not.mp hlen, rfl⟩
      · exact .inl ⟨_, rfl, nofun⟩

/-- **A PUBCOMP completes only a QoS 2 publish whose PUBREC was received** (PUBREL pending) under that id. -/
theorem pubcomp_needs_pubrec (e : Engine) (a : Ack) (opId : Nat) (o : Op) (p : Publish) (hs : stateBlocksAcks e.state = false)
    (hl : e.pendingPub.lookup a.packetId = some opId) (ho : e.op? opId = some o) (hp : o.packet = .publish p)
    (hnone : o.pubrel = none) : e.handlePubcomp a = (e, .err "ProtocolError") := by
  simp only [Engine.handlePubcomp, hs, Bool.false_eq_true, ↓reduceIte, hl, ho, hp, hnone]
  split <;> rfl

/-- **Reset (client closed): nothing stays tracked.** -/
theorem reset_leaves_nothing (e : Engine) :
    e.reset.ops = [] ∧ e.reset.userQ = [] ∧ e.reset.resubQ = [] ∧ e.reset.highQ = [] ∧ e.reset.current = none ∧
    e.reset.pendingPub = [] ∧ e.reset.pendingNonPub = [] ∧ e.reset.pendingWC = [] ∧ e.reset.allocated = [] ∧
    e.reset.timeouts = [] ∧ e.reset.inQos2 = [] := by
  simp [Engine.reset]

/-- non-vacuity for `success_resolves_once`: a tracked QoS 1 publish completed by its PUBACK -/
example : ∃ e', ({ cfg := {}, ops := [(5, { id := 5, packet := .publish { qos := 1, packetId := 9 }, user := some (0, none), packetId := some 9 })] } : Engine).completeSuccess 5 (some (.puback 9 0)) = (e', .ok)
    ∧ e'.outComps = [(0, .puback 9 0)] ∧ e'.op? 5 = none := by
  have := success_resolves_once { cfg := {}, ops := [(5, { id := 5, packet := .publish { qos := 1, packetId := 9 }, user := some (0, none), packetId := some 9 })] }
    5 0 { id := 5, packet := .publish { qos := 1, packetId := 9 }, user := some (0, none), packetId := some 9 } none (some (.puback 9 0)) (.puback 9 0)
    (by decide) rfl rfl rfl rfl
  simpa using this

/-! ### every history

  The theorems below quantify over **every** configuration and **every** finite sequence of events — user
  submissions, connection opened / closed, inbound bytes (any bytes), write completions, service calls with any
  buffer size, time queries and resets, in any order, legal for a driver or not.  `runEvents` folds `step` over the
  sequence and collects every completion handed to the user.  User operations are identified by the index the
  caller attaches to them (`UserEvent.idx`). -/

theorem runEvents_append (e : Engine) (a b : List Event) :
    runEvents e (a ++ b) = ((runEvents (runEvents e a).1 b).1, (runEvents e a).2 ++ (runEvents (runEvents e a).1 b).2) := by
  induction a generalizing e with
  | nil => simp [runEvents]
  | cons ev rest ih =>
    simp only [List.cons_append, runEvents]
    rw [ih]
    simp [List.append_assoc]

/-- **Conservation.**  After any history, the user operations still tracked by the engine together with those it has
    resolved are exactly the user operations that were submitted — as multisets: nothing is resolved that was not
    submitted, nothing is resolved more often than it was submitted, and nothing submitted is neither tracked nor
    resolved (no operation is silently dropped). -/
theorem tracked_or_resolved (cfg : Config) (evs : List Event) :
    (trackedIdx (runEvents (Engine.new cfg) evs).1.ops ++ (runEvents (Engine.new cfg) evs).2.map (·.1)).Perm
      (evs.flatMap Event.submitted) := by
  have h := (run_conserves evs (Engine.new cfg) (new_core_ok cfg) rfl).2.2
  simpa [trackedIdx, Engine.new] using h

/-- **Never twice.**  If the caller's indices are distinct, no operation is resolved twice — and none that has been
    resolved is still tracked. -/
theorem never_resolved_twice (cfg : Config) (evs : List Event) (hd : (evs.flatMap Event.submitted).Nodup) :
    ((runEvents (Engine.new cfg) evs).2.map (·.1)).Nodup ∧
    ∀ i ∈ (runEvents (Engine.new cfg) evs).2.map (·.1), i ∉ trackedIdx (runEvents (Engine.new cfg) evs).1.ops := by
  have h := tracked_or_resolved cfg evs
  have hn := (h.nodup_iff).mpr hd
  rw [List.nodup_append] at hn
  exact ⟨hn.2.1, fun i hi ht => hn.2.2 i ht i hi rfl⟩

/-- **Only what was submitted.**  Every completion belongs to a submitted operation. -/
theorem resolved_was_submitted (cfg : Config) (evs : List Event) :
    ∀ i ∈ (runEvents (Engine.new cfg) evs).2.map (·.1), i ∈ evs.flatMap Event.submitted := by
  intro i hi
  exact (tracked_or_resolved cfg evs).mem_iff.mp (List.mem_append_right _ hi)

/-- **Reset resolves everything.**  A history that ends with a reset (client closed) has resolved every submitted
    operation exactly once, and nothing stays tracked. -/
theorem reset_resolves_everything (cfg : Config) (evs : List Event) (t : Nat) :
    (runEvents (Engine.new cfg) (evs ++ [.reset t])).1.ops = [] ∧
    ((runEvents (Engine.new cfg) (evs ++ [.reset t])).2.map (·.1)).Perm (evs.flatMap Event.submitted) := by
  have h := tracked_or_resolved cfg (evs ++ [.reset t])
  have hops : (runEvents (Engine.new cfg) (evs ++ [.reset t])).1.ops = [] := by
    rw [runEvents_append]
    simp only [runEvents, step, Engine.finish]
    exact (reset_leaves_nothing _).1
  refine ⟨hops, ?_⟩
  rw [hops] at h
  simpa [trackedIdx, Event.submitted] using h

/-- non-vacuity: a concrete history (offline submission of a QoS 1 publish and a subscribe, connection, reset) in which
    both operations are resolved, each once -/
example : ((runEvents (Engine.new {}) [.user 0 (.publish { qos := 1, topic := [97] } 7 none), .opened 1 100,
      .user 2 (.subscribe { subscriptions := [{ topicFilter := [97] }] } 8 none), .service 3 4096 0, .reset 4]).2.map (·.1)).Perm [7, 8] := by
  decide +kernel

/-- **Never stranded.**  After any history, every tracked operation sits in a container from which a later event
    resolves it: one of the three queues, the current slot, the written-but-unflushed list, or a pending-ack table.
    (Together with `tracked_or_resolved`: an accepted operation is always either resolved or waiting somewhere.) -/
theorem tracked_is_located (cfg : Config) (evs : List Event) (id : Nat) (o : Op)
    (h : (runEvents (Engine.new cfg) evs).1.ops.lookup id = some o) :
    id ∈ (runEvents (Engine.new cfg) evs).1.userQ ∨ id ∈ (runEvents (Engine.new cfg) evs).1.resubQ ∨
    id ∈ (runEvents (Engine.new cfg) evs).1.highQ ∨ (runEvents (Engine.new cfg) evs).1.current = some id ∨
    id ∈ (runEvents (Engine.new cfg) evs).1.pendingWC ∨ id ∈ vals (runEvents (Engine.new cfg) evs).1.pendingPub ∨
    id ∈ vals (runEvents (Engine.new cfg) evs).1.pendingNonPub := by
  rcases (big_after cfg evs).loc id o h with a | a
  · exact a
  · cases a

/-- **Acknowledgements find their own operation.**  After any history, an entry of the pending-subscribe table under a
    packet id names a tracked SUBSCRIBE/UNSUBSCRIBE that carries exactly that id, and an entry of the pending-publish
    table a tracked QoS 1/2 publish carrying that id — and no two operations carry the same id (Props/C06). -/
theorem pending_entries_name_their_operation (cfg : Config) (evs : List Event) (pid id : Nat) :
    ((runEvents (Engine.new cfg) evs).1.pendingNonPub.lookup pid = some id →
      ∃ o, (runEvents (Engine.new cfg) evs).1.ops.lookup id = some o ∧ o.packetId = some pid ∧ isSubOrUnsub o.packet = true) ∧
    ((runEvents (Engine.new cfg) evs).1.pendingPub.lookup pid = some id →
      ∃ o, (runEvents (Engine.new cfg) evs).1.ops.lookup id = some o ∧ o.packetId = some pid ∧ isAckedPublish o.packet = true) :=
  ⟨(big_after cfg evs).tn pid id, (big_after cfg evs).tp pid id⟩

/-- **Every operation waits in exactly one place.**  After any history the user queue, the resubmit queue, the
    written-but-unflushed list, the two pending-acknowledgement tables and the current slot (unless the pending-publish
    table already accounts for the operation: a PUBREL being written) name no operation twice - so no operation can be
    sent, acknowledged or resolved from two places. -/
theorem operation_sits_in_one_place (cfg : Config) (evs : List Event) : (runEvents (Engine.new cfg) evs).1.loc.Nodup :=
  loc_nodup _ (big_after cfg evs) (extra_after cfg evs)

/-- the operation being written is in neither queue, and (unless it has been filed by the write in progress) neither
    written-but-unflushed nor awaiting a SUBACK/UNSUBACK -/
theorem current_operation_is_nowhere_else (cfg : Config) (evs : List Event) (id : Nat)
    (h : (runEvents (Engine.new cfg) evs).1.current = some id) :
    id ∉ (runEvents (Engine.new cfg) evs).1.userQ ∧ id ∉ (runEvents (Engine.new cfg) evs).1.resubQ ∧
    id ∉ (runEvents (Engine.new cfg) evs).1.pendingWC ∧ id ∉ vals (runEvents (Engine.new cfg) evs).1.pendingNonPub :=
  let x := extra_after cfg evs
  ⟨(x.x4 id h).1, (x.x4 id h).2, x.x1a rfl id h, x.x1b rfl id h⟩

end GV.Props.C01
