/-
  Props/C12.lean — Lifecycle: well-formed event stream; stop always stops; close is terminal.
  About Model/Client.lean (client/mod.rs `MqttClientImpl`: `handle_incoming_operation`,
  `compute_optional_state_transition`, `transition_to_state`, `dispatch_packet_events`).
  The network drivers' loops only request the transitions listed in `legal`.
-/
import GV.Model.Client
namespace GV.Props.C12
open GV

instance : LawfulBEq CState where
  eq_of_beq := by intro a b h; cases a <;> cases b <;> cases h <;> rfl
  rfl := by intro a; cases a <;> rfl

/-! ### the event grammar -/

inductive Phase where
  | idle | attempting | established | bad
  deriving Repr, BEq, DecidableEq

/-- the grammar's automaton: Attempt (Failure | Success Disconnection); Stopped only between attempts;
    inbound publishes do not affect it -/
def Phase.step : Phase → CEvent → Phase
  | .idle, .attempt => .attempting
  | .attempting, .failure _ => .idle
  | .attempting, .success _ => .established
  | .established, .disconnection _ => .idle
  | .idle, .stopped => .idle
  | p, .publish _ => p
  | _, _ => .bad

def phaseOf (evs : List CEvent) : Phase := evs.foldl Phase.step .idle

theorem phaseOf_snoc {a : List CEvent} {p : Phase} (ev : CEvent) (h : phaseOf a = p) : phaseOf (a ++ [ev]) = p.step ev := by
  simp [← h, phaseOf, List.foldl_append]

/-- where the grammar must stand for a client in this state -/
def expected (c : Client) : Phase :=
  match c.current with
  | .connecting => .attempting
  | .connected => if c.lastConnack = some true then .established else .attempting
  | _ => .idle

/-- the invariant: the whole event history is a prefix of a well-formed stream, in step with the state -/
def Inv (c : Client) : Prop :=
  phaseOf c.events = expected c ∧ (c.current = .connecting → c.lastConnack = none)

/-- the transitions the drivers' loops request -/
def legal : CState → CState → Bool
  | .stopped, .connecting | .stopped, .shutdown => true
  | .connecting, .connected | .connecting, .pendingReconnect | .connecting, .stopped => true
  | .connected, .pendingReconnect | .connected, .stopped => true
  | .pendingReconnect, .connecting | .pendingReconnect, .stopped => true
  | _, _ => false

theorem engStep_fields (c : Client) (ev : Event) :
    (c.engStep ev).1.current = c.current ∧ (c.engStep ev).1.desired = c.desired ∧ (c.engStep ev).1.events = c.events ∧
    (c.engStep ev).1.lastConnack = c.lastConnack := by
  simp [Client.engStep]

/-- `transition_to_state` ends at the requested state, at Stopped or at Shutdown -/
theorem finalTargetOf_cases (d t : CState) :
    finalTargetOf d t = t ∨ finalTargetOf d t = .stopped ∨ finalTargetOf d t = .shutdown := by
  unfold finalTargetOf
  dsimp only
  split <;> split <;> simp

/-- what the grammar needs of the transitions the loops request: Connected is entered only from Connecting, and
    Connecting only from a state between attempts -/
theorem finalTarget_entries {cur target : CState} (d : CState) (h : legal cur target = true) :
    (finalTargetOf d target = .connected → cur = .connecting) ∧
    (finalTargetOf d target = .connecting → cur ≠ .connecting ∧ cur ≠ .connected) := by
  constructor <;> intro he <;> rcases finalTargetOf_cases d target with h' | h' | h' <;> rw [h'] at he <;> cases he
  · cases cur <;> cases h <;> rfl
  · cases cur <;> cases h <;> exact ⟨nofun, nofun⟩

/-- the event/bookkeeping part of a transition keeps the stream well-formed; each case names the events reported -/
theorem applyTransition_keeps_grammar (c1 : Client) (t2 : CState) (lasted : Option Nat) (h : Inv c1)
    (h1 : t2 = .connected → c1.current = .connecting)
    (h2 : t2 = .connecting → c1.current ≠ .connecting ∧ c1.current ≠ .connected) :
    Inv (c1.applyTransition c1.current t2 lasted) := by
  obtain ⟨hp, hc⟩ := h
  unfold expected at hp
  generalize c1.current = old at hp hc h1 h2 ⊢
  cases old with
  | stopped | pendingReconnect | shutdown =>
    cases t2 with
    | connecting => exact ⟨phaseOf_snoc .attempt hp, fun _ => rfl⟩
    | connected => cases h1 rfl
    | stopped => exact ⟨phaseOf_snoc .stopped hp, nofun⟩
    | pendingReconnect | shutdown => exact ⟨hp, nofun⟩
  | connecting =>
    cases t2 with
    | connected =>
      refine ⟨?_, nofun⟩
      show _ = ite (c1.lastConnack = some true) _ _
      rw [hc rfl]
      exact hp
    | pendingReconnect | shutdown => exact ⟨phaseOf_snoc (.failure _) hp, nofun⟩
    | stopped => exact ⟨phaseOf_snoc .stopped (phaseOf_snoc (.failure _) hp), nofun⟩
    | connecting => exact absurd rfl (h2 rfl).1
  | connected =>
    have leave : phaseOf (match c1.lastConnack with | some true => c1.emitDisconnection | _ => c1.emitFailure).events = .idle := by
      dsimp only at hp
      split
      · next hk => rw [hk] at hp; exact phaseOf_snoc (.disconnection _) hp
      · next hk => rw [if_neg (hk ·)] at hp; exact phaseOf_snoc (.failure _) hp
    cases t2 with
    | pendingReconnect | shutdown => exact ⟨leave, nofun⟩
    | stopped => exact ⟨phaseOf_snoc .stopped leave, nofun⟩
    | connected => cases h1 rfl
    | connecting => exact absurd rfl (h2 rfl).2

theorem Inv.of_fields {c c' : Client} (h : Inv c)
    (hk : c'.events = c.events ∧ c'.current = c.current ∧ c'.lastConnack = c.lastConnack) : Inv c' := by
  unfold Inv expected
  rw [hk.1, hk.2.1, hk.2.2]
  exact h

/-- **Every transition keeps the event stream well-formed**: entering Connecting reports an attempt, leaving
    Connecting without reaching Connected reports exactly one failure, leaving Connected reports exactly one
    disconnection (after a success) or failure (without one), Stopped is reported only between attempts. -/
theorem transition_keeps_grammar (c : Client) (target : CState) (lasted : Option Nat)
    (h : Inv c) (hl : legal c.current target = true) : Inv (c.transitionTo target lasted).1 := by
  have h1 := engStep_fields c (.opened 0 30000)
  have h2 := engStep_fields c (.closed 0)
  unfold Client.transitionTo
  generalize c.engStep (.opened 0 30000) = X at h1 ⊢
  generalize c.engStep (.closed 0) = Y at h2 ⊢
  by_cases hsame : (c.current == target) = true
  · simp only [hsame, ↓reduceIte]; exact h
  · simp only [hsame, Bool.false_eq_true, ↓reduceIte]
    -- the engine notification `N` changes neither the state, the events nor the last CONNACK
    generalize hN : (if (c.finalTarget target == .connected) = true then _ else _ : Client × Res) = N
    have hf : N.1.current = c.current ∧ N.1.desired = c.desired ∧ N.1.events = c.events ∧ N.1.lastConnack = c.lastConnack := by
      split at hN
      · subst hN; exact h1
      · split at hN <;> subst hN
        · exact h2
        · exact ⟨rfl, rfl, rfl, rfl⟩
    obtain ⟨hcur, _, he, hk⟩ := hf
    have hN := h.of_fields ⟨he, hcur, hk⟩
    split
    · exact hN
    · rw [← hcur] at hl ⊢
      exact applyTransition_keeps_grammar N.1 _ lasted hN (finalTarget_entries c.desired hl).1 (finalTarget_entries c.desired hl).2

/-- **CONNACK handling keeps the stream well-formed**: the first CONNACK of a connection reports a success
    exactly when its reason code is success; inbound publishes do not disturb the grammar. -/
theorem connack_keeps_grammar (c : Client) (k : Connack) (h : Inv c) (hcur : c.current = .connected) (hfirst : c.lastConnack = none) :
    Inv (c.dispatchEvents [.connack k]) := by
  obtain ⟨hp, _⟩ := h
  simp only [expected, hcur, hfirst] at hp
  simp only [Client.dispatchEvents, List.foldl]
  by_cases hk : k.reasonCode = 0
  · simp [hk, Inv, expected, Client.emit, hcur, phaseOf_snoc _ hp, Phase.step]
  · simp [hk, Inv, expected, hcur, hp]

theorem publish_keeps_grammar (c : Client) (p : Publish) (h : Inv c) : Inv (c.dispatchEvents [.publish p]) := by
  obtain ⟨hp, hc⟩ := h
  simp only [Client.dispatchEvents, List.foldl, Client.emit]
  refine ⟨?_, hc⟩
  simp only [expected] at hp ⊢
  rw [phaseOf_snoc _ hp]
  cases c.current <;> simp [Phase.step] <;> split <;> simp [Phase.step]

/-- non-vacuity: a fresh client satisfies the invariant -/
example (e : Engine) : Inv { eng := e } := by simp [Inv, expected, phaseOf]

/-! ### stop always stops; close is terminal -/

/-- Once the user no longer wants a connection, a client that is connecting or waiting to reconnect is moved
    to Stopped at the loop's next look — whatever the transport is doing. -/
theorem stop_leaves_connecting (c : Client) (hd : c.desired ≠ .connected)
    (hcur : c.current = .connecting ∨ c.current = .pendingReconnect) :
    c.computeTransition = some .stopped := by
  rcases hcur with h | h <;> simp [Client.computeTransition, h, bne_iff_ne, hd]

/-- A connected client stops at once unless a user-requested DISCONNECT is still to be written. -/
theorem stop_leaves_connected (c : Client) (hd : c.desired ≠ .connected) (hcur : c.current = .connected)
    (hs : c.stopOpts ≠ some true) : c.computeTransition = some .stopped := by
  simp only [Client.computeTransition, hcur]
  cases hso : c.stopOpts with
  | none => simp [bne_iff_ne, hd]
  | some b => cases b <;> simp_all [bne_iff_ne]

/-- A stopped client whose user wants it stopped makes no attempt; it leaves Stopped only for a start or a close. -/
theorem stopped_stays_stopped (c : Client) (hcur : c.current = .stopped) :
    c.computeTransition = (match c.desired with | .connected => some .connecting | .shutdown => some .shutdown | _ => none) := by
  simp only [Client.computeTransition, hcur]
  cases c.desired <;> rfl

/-- A stop with a DISCONNECT during the handshake (no established MQTT connection) does not wait for a
    DISCONNECT that cannot be sent. -/
theorem stop_with_disconnect_during_handshake (c : Client) (d : Disconnect) (h : (c.eng.state == .connected) = false) :
    (c.handleOp (.stopWithDisconnect d)).stopOpts = some false ∧ (c.handleOp (.stopWithDisconnect d)).desired = .stopped := by
  simp [Client.handleOp, h, Client.applyError]
  split <;> simp

/-- **Close is terminal**: after a close request nothing is left to wait for, so wherever the client is the
    loop's next look moves it out, and that transition ends in Shutdown. -/
theorem close_shuts_down (c : Client) (hcur : c.current ≠ .shutdown) :
    let c' := c.handleOp .close
    ∃ t, c'.computeTransition = some t ∧ c'.finalTarget t = .shutdown := by
  have hf := engStep_fields c (.reset 0)
  simp only [Client.handleOp]
  cases hc : c.current with
  | shutdown => exact absurd hc hcur
  | stopped => exact ⟨.shutdown, by simp [Client.computeTransition, hf.1, hc], by simp [Client.finalTarget]; decide⟩
  | connecting | pendingReconnect | connected =>
    exact ⟨.stopped, by simp [Client.computeTransition, hf.1, hc], by simp [Client.finalTarget]; decide⟩

/-- **A start processed after a close is ignored** (it used to set the desired state back to Connected and revive a client
    whose loop had not ended yet). -/
theorem start_after_close_is_ignored (c : Client) (h : c.desired = .shutdown) : c.handleOp .start = c := by
  simp [Client.handleOp, h]

def isStopRequest : ClientOp → Bool
  | .stop => true
  | .stopWithDisconnect _ => true
  | _ => false

/-- **No request undoes a close** (partial: request sequences without a stop): once close has been requested the desired
    state stays Shutdown whatever starts, closes and operations are processed afterwards.  What is missing: a *stop* processed
    after the close overwrites the desired state with Stopped in `handle_incoming_operation`; both driver loops look at the
    client (`computeTransition`, which `close_shuts_down` shows leads to Shutdown) after every single request, so they never
    process a second request on a closed client - that is a fact about the loops, covered by the driver runs, not by this
    model. -/
theorem close_is_never_undone_partial (c : Client) (ops : List ClientOp) (h : c.desired = .shutdown)
    (hns : ops.all (fun o => !isStopRequest o) = true) :
    (ops.foldl Client.handleOp c).desired = .shutdown := by
  induction ops generalizing c with
  | nil => exact h
  | cons o os ih =>
    simp only [List.all_cons, Bool.and_eq_true] at hns
    refine ih _ ?_ hns.2
    cases o with
    | start => simp [Client.handleOp, h]
    | stop | stopWithDisconnect _ => simp [isStopRequest] at hns
    | close => simp [Client.handleOp]
    | publish p => simp only [Client.handleOp]; rw [(engStep_fields c _).2.1]; exact h

example (e : Engine) : (({ eng := e, desired := .shutdown } : Client).handleOp .stop).desired = .stopped := by
  simp [Client.handleOp, Client.applyError]

/-- Shutdown is absorbing: the loop requests nothing further. -/
theorem shutdown_is_final (c : Client) (hcur : c.current = .shutdown) : c.computeTransition = none := by
  simp [Client.computeTransition, hcur]

/-! ### every history: the invariant over arbitrary sequences of what the driver loops do -/

/-- what a driver loop does to the client between two looks at it -/
inductive Action where
  /-- a user request taken from the operation channel -/
  | op (o : ClientOp)
  /-- `transition_to_state(target)`; `lasted` is the measured age of the connection -/
  | transition (target : CState) (lasted : Option Nat)
  /-- the engine surfaced these packets from one read (`dispatch_packet_events`) -/
  | dispatch (evs : List Packet)
  /-- an error recorded by the driver (`apply_error`) -/
  | error (kind : String)

def isConnack : Packet → Bool
  | .connack _ => true
  | _ => false

/-- the actions a driver can perform in a state: transitions it may request, and at most one CONNACK event per
    connection (the engine accepts a CONNACK only in PendingConnack), surfaced while the client is Connected -/
def allowed (c : Client) : Action → Prop
  | .op _ => True
  | .transition target _ => legal c.current target = true
  | .dispatch evs =>
    (evs.all (fun p => !isConnack p)) ∨
    (c.current = .connected ∧ c.lastConnack = none ∧ ∃ pre k post, evs = pre ++ [.connack k] ++ post ∧
      pre.all (fun p => !isConnack p) = true ∧ post.all (fun p => !isConnack p) = true)
  | .error _ => True

def act (c : Client) : Action → Client
  | .op o => c.handleOp o
  | .transition target lasted => (c.transitionTo target lasted).1
  | .dispatch evs => c.dispatchEvents evs
  | .error k => c.applyError k

theorem applyError_keeps (c : Client) (k : String) :
    (c.applyError k).events = c.events ∧ (c.applyError k).current = c.current ∧ (c.applyError k).lastConnack = c.lastConnack := by
  simp only [Client.applyError]; split <;> simp

/-- a request sets none of the three fields the invariant looks at -/
theorem handleOp_keeps (c : Client) (o : ClientOp) :
    (c.handleOp o).events = c.events ∧ (c.handleOp o).current = c.current ∧ (c.handleOp o).lastConnack = c.lastConnack := by
  cases o <;> simp [Client.handleOp, Client.applyError, Client.engStep, apply_ite Client.events, apply_ite Client.current,
    apply_ite Client.lastConnack]

theorem dispatch_append (c : Client) (a b : List Packet) : c.dispatchEvents (a ++ b) = (c.dispatchEvents a).dispatchEvents b :=
  List.foldl_append ..

/-- events other than CONNACK keep the invariant and touch neither the state nor the last CONNACK -/
theorem dispatch_no_connack (evs : List Packet) : ∀ (c : Client), evs.all (fun p => !isConnack p) = true → Inv c →
    Inv (c.dispatchEvents evs) ∧ (c.dispatchEvents evs).current = c.current ∧ (c.dispatchEvents evs).lastConnack = c.lastConnack := by
  induction evs with
  | nil => intro c _ h; exact ⟨h, rfl, rfl⟩
  | cons p rest ih =>
    intro c hall h
    rw [List.all_cons, Bool.and_eq_true] at hall
    have hstep : Inv (c.dispatchEvents [p]) ∧ (c.dispatchEvents [p]).current = c.current ∧ (c.dispatchEvents [p]).lastConnack = c.lastConnack := by
      unfold Client.dispatchEvents
      simp only [List.foldl]
      split
      · exact ⟨publish_keeps_grammar c _ h, rfl, rfl⟩
      · exact ⟨h, rfl, rfl⟩
      · cases hall.1
      · exact ⟨h, rfl, rfl⟩
    have := ih (c.dispatchEvents [p]) hall.2 hstep.1
    exact ⟨this.1, this.2.1.trans hstep.2.1, this.2.2.trans hstep.2.2⟩

/-- one legal action keeps the invariant -/
theorem act_keeps_grammar (c : Client) (a : Action) (h : Inv c) (hl : allowed c a) : Inv (act c a) := by
  cases a with
  | op o => exact h.of_fields (handleOp_keeps c o)
  | error k => exact h.of_fields (applyError_keeps c k)
  | transition target lasted => exact transition_keeps_grammar c target lasted h hl
  | dispatch evs =>
    simp only [act]
    rcases hl with hl | ⟨hcur, hfirst, pre, k, post, rfl, hpre, hpost⟩
    · exact (dispatch_no_connack evs c hl h).1
    · rw [dispatch_append, dispatch_append]
      have h1 := dispatch_no_connack pre c hpre h
      have h2 := connack_keeps_grammar (c.dispatchEvents pre) k h1.1 (h1.2.1.trans hcur) (h1.2.2.trans hfirst)
      exact (dispatch_no_connack post _ hpost h2).1

/-- a history: each action legal in the state it is performed in -/
def LegalRun : Client → List Action → Prop
  | _, [] => True
  | c, a :: rest => allowed c a ∧ LegalRun (act c a) rest

/-- **Every history.**  Starting from a freshly created client, after any sequence of user requests, transitions
    requested by the driver loops, surfaced packets and recorded errors, the whole event stream delivered so far is a
    prefix of a well-formed stream (Attempt (Failure | Success Disconnection), Stopped only between attempts) and is in
    step with the client's state. -/
theorem every_history_well_formed (e : Engine) (actions : List Action) (h : LegalRun { eng := e } actions) :
    Inv (actions.foldl act { eng := e }) := by
  have key : ∀ (acts : List Action) (c : Client), Inv c → LegalRun c acts → Inv (acts.foldl act c) := by
    intro acts
    induction acts with
    | nil => intro c hc _; exact hc
    | cons a rest ih => intro c hc hl; exact ih _ (act_keeps_grammar c a hc hl.1) hl.2
  exact key actions _ (by simp [Inv, expected, phaseOf]) h

/-- consequence: the stream never contains a malformed step -/
theorem never_bad (e : Engine) (actions : List Action) (h : LegalRun { eng := e } actions) :
    phaseOf (actions.foldl act { eng := e }).events ≠ .bad := by
  have := (every_history_well_formed e actions h).1
  rw [this]
  simp only [expected]
  split <;> (try split) <;> simp

end GV.Props.C12
