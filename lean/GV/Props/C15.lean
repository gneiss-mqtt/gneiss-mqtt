/-
  Props/C15.lean — Offline-queue policy decides per operation kind what survives being offline.
  About Model/Engine.lean: `does_packet_pass_offline_queue_policy`, `handle_user_event`,
  `partition_operation_queue_by_queue_policy` (protocol.rs).
-/
import GV.Props.C01
namespace GV.Props.C15
open GV

/-- the policy table of the documentation, as a specification -/
def specKeeps (policy : OfflinePolicy) (p : Packet) : Bool :=
  match policy, p with
  | .preserveAll, .publish _ | .preserveAll, .subscribe _ | .preserveAll, .unsubscribe _ => true
  | .preserveAcknowledged, .subscribe _ | .preserveAcknowledged, .unsubscribe _ => true
  | .preserveAcknowledged, .publish pb => pb.qos != 0
  | .preserveQos1Plus, .publish pb => pb.qos != 0
  | _, _ => false

/-- **The decision is exactly the documented table**, for every policy and every packet. -/
theorem policy_is_the_table (policy : OfflinePolicy) (p : Packet) : passesPolicy p policy = specKeeps policy p := by
  cases policy <;> cases p <;> rfl

/-- while connected nothing is failed for lack of a connection -/
theorem connected_accepts_everything (e : Engine) (p : Packet) (h : e.state = .connected) : e.opPassesPolicy p = true := by
  simp [Engine.opPassesPolicy, h]

def userPacket : UserEvent → Packet
  | .publish p _ _ => .publish p
  | .subscribe p _ _ => .subscribe p
  | .unsubscribe p _ _ => .unsubscribe p
  | .disconnect p => .disconnect p

def userIndex : UserEvent → Option Nat
  | .publish _ i _ | .subscribe _ i _ | .unsubscribe _ i _ => some i
  | .disconnect _ => none

/-- every user event but a DISCONNECT is the submission of its packet for the user queue -/
theorem handleUser_eq_submit (e : Engine) (ev : UserEvent) (idx : Nat) (hidx : userIndex ev = some idx) :
    isDisconnect (userPacket ev) = false ∧ ∃ t, e.handleUser ev = e.submit (userPacket ev) (some (idx, t)) .user false := by
  cases ev with
  | disconnect d => cases hidx
  | publish p i t => cases hidx; exact ⟨rfl, t, rfl⟩
  | subscribe p i t => cases hidx; exact ⟨rfl, t, rfl⟩
  | unsubscribe p i t => cases hidx; exact ⟨rfl, t, rfl⟩

/-- a submission the offline policy rejects is failed on the spot: created, completed with the error, never queued -/
theorem submit_rejected (e : Engine) (p : Packet) (idx : Nat) (t : Option Nat) (q : QueueKind) (front : Bool)
    (hnd : isDisconnect p = false) (hrej : e.opPassesPolicy p = false) :
    let e' := (e.submit p (some (idx, t)) q front).1
    e'.outComps = e.outComps ++ [(idx, .err "OfflineQueuePolicyFailed")] ∧
    e'.userQ = e.userQ ∧ e'.highQ = e.highQ ∧ e'.resubQ = e.resubQ ∧ e'.op? e.nextOpId = none := by
  obtain ⟨e2, h2, hout, hop⟩ := C01.failure_resolves_once (e.createOp p (some (idx, t))).1 e.nextOpId idx _ t
    "OfflineQueuePolicyFailed" (createOp_lookup e p _) rfl hnd rfl
  have hk := completeFailure_same (e.createOp p (some (idx, t))).1 e.nextOpId "OfflineQueuePolicyFailed"
  rw [h2] at hk
  rw [submit_eq, show (e.createOp p (some (idx, t))).1.opPassesPolicy p = false from hrej, Bool.not_false, if_pos (Eq.refl true), h2]
  exact ⟨hout, hk.userQ, hk.highQ, hk.resubQ, hop⟩

/-- a submission that passes joins the back of the user queue and stays tracked; nothing is handed out -/
theorem submit_kept (e : Engine) (p : Packet) (u : Option (Nat × Option Nat)) (hkeep : e.opPassesPolicy p = true) :
    let e' := (e.submit p u .user false).1
    e'.outComps = e.outComps ∧ e'.userQ = e.userQ ++ [e.nextOpId] ∧ (e'.op? e.nextOpId).isSome = true ∧
      (e.submit p u .user false).2 = .ok := by
  rw [submit_eq, show (e.createOp p u).1.opPassesPolicy p = true from hkeep, Bool.not_true, if_neg Bool.false_ne_true]
  exact ⟨rfl, rfl, congrArg Option.isSome (createOp_lookup e p u), rfl⟩

/-- **Submission while offline, kind rejected by the policy**: the operation is failed at once with the
    offline-policy error, and it is neither queued nor tracked (so it can never be sent later). -/
theorem offline_rejected_fails_at_submission (e : Engine) (ev : UserEvent) (idx : Nat)
    (hoff : e.state ≠ .connected) (hidx : userIndex ev = some idx)
    (hrej : passesPolicy (userPacket ev) e.cfg.policy = false) :
    let e' := (e.handleUser ev).1
    e'.outComps = e.outComps ++ [(idx, .err "OfflineQueuePolicyFailed")] ∧
    e'.userQ = e.userQ ∧ e'.highQ = e.highQ ∧ e'.resubQ = e.resubQ ∧ e'.op? e.nextOpId = none := by
  have hst : (e.state == .connected) = false := beq_eq_false_iff_ne.mpr hoff
  obtain ⟨hnd, t, h⟩ := handleUser_eq_submit e ev idx hidx
  rw [h]
  exact submit_rejected e _ idx t .user false hnd (by simp only [Engine.opPassesPolicy, hst, hrej, Bool.false_eq_true, ↓reduceIte])

/-- **Submission of a kind the policy preserves (or any kind while connected)**: nothing is failed; the
    operation joins the back of the user queue and stays tracked. -/
theorem preserved_is_queued (e : Engine) (ev : UserEvent) (idx : Nat) (hidx : userIndex ev = some idx)
    (hkeep : e.opPassesPolicy (userPacket ev) = true) :
    let e' := (e.handleUser ev).1
    e'.outComps = e.outComps ∧ e'.userQ = e.userQ ++ [e.nextOpId] ∧ (e'.op? e.nextOpId).isSome = true ∧ (e.handleUser ev).2 = .ok := by
  obtain ⟨_, t, h⟩ := handleUser_eq_submit e ev idx hidx
  rw [h]
  exact submit_kept e _ _ hkeep

/-- **At disconnection the queues are split by the same table**: every retained id passes the policy, every
    rejected id does not, and ids are neither invented nor duplicated. -/
theorem partition_respects_policy (e : Engine) (q : List Nat) :
    (∀ id ∈ (e.partitionByPolicy q).1, ∃ o, e.op? id = some o ∧ passesPolicy o.packet e.cfg.policy = true) ∧
    (∀ id ∈ (e.partitionByPolicy q).2, ∃ o, e.op? id = some o ∧ passesPolicy o.packet e.cfg.policy = false) :=
  ⟨fun id hid => ((partitionByPolicy_mem e q id).1.mp hid).2, fun id hid => ((partitionByPolicy_mem e q id).2.mp hid).2⟩

/-- non-vacuity: offline with policy PreserveQos1Plus a subscribe is rejected and a QoS 1 publish kept -/
example : passesPolicy (.subscribe {}) .preserveQos1Plus = false ∧ passesPolicy (.publish { qos := 1 }) .preserveQos1Plus = true := by decide

/-! ### every history -/

/-- **While offline, the user queue holds only what the policy keeps.**  After any history that leaves the engine without
    an MQTT connection (Disconnected, or waiting for the CONNACK), every operation waiting in the user queue is of a kind
    the configured offline-queue policy preserves: whatever the policy rejects has been failed - at submission, at
    disconnection (queued, half-written, written-but-unflushed or unacknowledged) - and never waits for the next connection. -/
theorem offline_queue_holds_only_what_policy_keeps (cfg : Config) (evs : List Event) (id : Nat) (o : Op)
    (hs : (runEvents (Engine.new cfg) evs).1.state = .disconnected ∨ (runEvents (Engine.new cfg) evs).1.state = .pendingConnack)
    (hq : id ∈ (runEvents (Engine.new cfg) evs).1.userQ)
    (ho : (runEvents (Engine.new cfg) evs).1.ops.lookup id = some o) :
    specKeeps (runEvents (Engine.new cfg) evs).1.cfg.policy o.packet = true := by
  rw [← policy_is_the_table]
  exact (C01.extra_after cfg evs).op hs id hq o ho

/-- non-vacuity: offline, a QoS 1 publish submitted under PreserveQos1Plus waits in the user queue -/
example :
    let e := (runEvents (Engine.new { policy := .preserveQos1Plus }) [.user 0 (.publish { topic := [97], qos := 1 } 0 none)]).1
    (e.state == .disconnected && e.userQ == [1] && (e.ops.lookup 1).isSome) = true := by decide

/-- non-vacuity for the handshake case (the instance a seeded change got wrong): the transport is open and the CONNECT written, the
    CONNACK is still outstanding; a QoS 1 publish submitted under PreserveNothing fails at once and is not queued -/
example :
    let e := (runEvents (Engine.new { policy := .preserveNothing }) [.opened 1 100, .service 2 4096 0, .writeDone 3,
      .user 4 (.publish { topic := [97], qos := 1 } 0 none)]).1
    (e.state == .pendingConnack && e.userQ == [] && e.ops.length == 0) = true := by decide +kernel

end GV.Props.C15
