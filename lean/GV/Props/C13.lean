/-
  Props/C13.lean — Both drivers move bytes faithfully and always deliver an operation's result.
  What is logic is proved here about Model/Driver.lean: the write loop's accounting, the websocket read
  adapter, the result slot.  Thread/task interleavings and the transports themselves are the
  environment; the real drivers are run against scripted transports by the C13 suites.
-/
import GV.Model.Driver
namespace GV.Props.C13
open GV

/-! ### write loop: exactly the engine's bytes, in order, without loss or duplication -/

/-- the accounting invariant: what the transport accepted, followed by what is still unsent in the
    buffer, is exactly what the engine produced -/
def WInv (w : WriteLoop) : Prop :=
  w.cursor ≤ w.buf.length ∧ w.wire ++ w.buf.drop w.cursor = w.produced

theorem winv_init : WInv {} := by simp [WInv]

theorem winv_step (w : WriteLoop) (ev : WEvent) (h : WInv w) : WInv (w.step ev) := by
  obtain ⟨hc, hw⟩ := h
  cases ev with
  | service batch =>
    refine ⟨Nat.le_trans hc (List.length_append ▸ Nat.le_add_right ..), ?_⟩
    show w.wire ++ (w.buf ++ batch).drop w.cursor = w.produced ++ batch
    rw [List.drop_append_of_le_length hc, ← List.append_assoc, hw]
  | stalled => exact ⟨hc, hw⟩
  | accepted n =>
    unfold WriteLoop.step
    dsimp only
    have hk := Nat.min_le_right n (w.buf.length - w.cursor)
    generalize min n (w.buf.length - w.cursor) = k at hk ⊢
    have hsplit : w.wire ++ (w.buf.drop w.cursor).take k ++ w.buf.drop (w.cursor + k) = w.produced := by
      rw [List.append_assoc, ← hw, ← List.drop_drop, List.take_append_drop]
    split
    · next hfull =>
      rw [List.drop_eq_nil_of_le (Nat.le_of_eq hfull.2.symm), List.append_nil] at hsplit
      exact ⟨Nat.zero_le _, (List.append_nil _).trans hsplit⟩
    · exact ⟨Nat.add_le_of_le_sub' hc hk, hsplit⟩

theorem winv_run (evs : List WEvent) (w : WriteLoop) (h : WInv w) : WInv (w.run evs) := by
  induction evs generalizing w with
  | nil => exact h
  | cons e es ih => exact ih _ (winv_step w e h)

/-- **No loss, duplication or reordering.**  After any history the bytes the transport has accepted are a
    prefix of the bytes the engine produced, the rest being exactly the unsent remainder the loop offers next. -/
theorem transport_gets_engine_bytes (evs : List WEvent) :
    let w := (({} : WriteLoop).run evs)
    w.wire ++ w.offered = w.produced := (winv_run evs {} winv_init).2

theorem wire_is_prefix (evs : List WEvent) :
    (({} : WriteLoop).run evs).wire <+: (({} : WriteLoop).run evs).produced :=
  ⟨_, transport_gets_engine_bytes evs⟩

/-- once nothing is left to offer, everything produced has been handed to the transport -/
theorem drained_means_all_sent (evs : List WEvent) (h : (({} : WriteLoop).run evs).offered = []) :
    (({} : WriteLoop).run evs).wire = (({} : WriteLoop).run evs).produced := by
  have := transport_gets_engine_bytes evs
  simp only [h, List.append_nil] at this
  exact this

/-- **Write completion only for a fully written batch.**  A step reports write completion exactly when it
    is an accepted write that empties a non-empty pending slice. -/
theorem completion_only_when_batch_written (w : WriteLoop) (ev : WEvent) (h : WInv w)
    (hc : (w.step ev).completions ≠ w.completions) :
    (w.step ev).completions = w.completions + 1 ∧ (w.step ev).offered = [] ∧ w.offered ≠ [] ∧
      ∃ n, ev = .accepted n ∧ w.offered.length ≤ n := by
  cases ev with
  | service batch => exact absurd rfl hc
  | stalled => exact absurd rfl hc
  | accepted n =>
    unfold WriteLoop.step at hc ⊢
    dsimp only at hc ⊢
    split
    · next hfull =>
      have hlen : w.offered.length = w.buf.length - w.cursor := List.length_drop
      refine ⟨rfl, rfl, fun he => ?_, n, rfl, ?_⟩
      · have hpos := Nat.lt_of_lt_of_le hfull.1 (Nat.min_le_right ..)
        rw [← hlen, he] at hpos
        exact Nat.lt_irrefl 0 hpos
      · rw [hlen]
        exact Nat.le_trans (Nat.sub_le_iff_le_add'.mpr (Nat.le_of_eq hfull.2.symm)) (Nat.min_le_left ..)
    · next hnot =>
      rw [if_neg hnot] at hc
      exact absurd rfl hc

/-- non-vacuity: a batch written in three pieces with a stall in between, then a second batch -/
example : (({} : WriteLoop).run [.service [1, 2, 3, 4], .accepted 1, .stalled, .accepted 2, .accepted 9, .service [5], .accepted 1]) =
    { buf := [], cursor := 0, wire := [1, 2, 3, 4, 5], produced := [1, 2, 3, 4, 5], completions := 2 } := by decide

/-! ### websocket read adapter: the byte stream is the concatenation of the message payloads -/

def payloadOf : WsMsg → Bytes
  | .data p => p
  | _ => []

def payloads (ms : List WsMsg) : Bytes := (ms.map payloadOf).flatten

/-- what the adapter still owes the caller: the unread tail of the current message, then every arrived message -/
def residual (r : WsReader) (arrived : List WsMsg) : Bytes :=
  (match r.cur with | some (d, i) => d.drop i | none => []) ++ payloads arrived

def resultBytes : WsResult → Bytes
  | .ok b => b
  | _ => []

theorem cursorRead_spec (data : Bytes) (index space : Nat) :
    (cursorRead data index space).1 ++ data.drop (cursorRead data index space).2 = data.drop index ∧
    (cursorRead data index space).1.length ≤ space ∧
    ((cursorRead data index space).1.length < space → data.drop (cursorRead data index space).2 = []) := by
  unfold cursorRead
  dsimp only
  refine ⟨by rw [← List.drop_drop]; exact List.take_append_drop _ _, ?_, fun h => ?_⟩
  · rw [List.length_take]
    exact Nat.le_trans (Nat.min_le_left ..) (Nat.min_le_right ..)
  · rw [List.length_take, List.length_drop, Nat.min_eq_left (Nat.min_le_left ..)] at h
    have hds : data.length - index ≤ space :=
      Nat.le_of_lt (Nat.lt_of_not_le fun hsd => by rw [Nat.min_eq_right hsd] at h; exact Nat.lt_irrefl _ h)
    rw [Nat.min_eq_left hds]
    exact List.drop_eq_nil_of_le (Nat.sub_le_iff_le_add'.mp (Nat.le_refl _))

theorem resultBytes_idle (acc : Bytes) : resultBytes (if acc.isEmpty then .wouldBlock else .ok acc) = acc := by
  cases acc <;> rfl

/-- one pass of the loop conserves bytes: what is returned plus what is still owed equals what was in the
    caller's buffer already plus what was owed before; and the result fits the buffer -/
theorem wsLoop_conserves : ∀ (fuel : Nat) (r : WsReader) (arrived : List WsMsg) (bufLen : Nat) (acc : Bytes),
    acc.length ≤ bufLen →
    let out := wsLoop fuel r arrived bufLen acc
    resultBytes out.2.2 ++ residual out.1 out.2.1 = acc ++ residual r arrived ∧
    (resultBytes out.2.2).length ≤ bufLen
  | 0, r, arrived, bufLen, acc, hacc => by
    unfold wsLoop
    dsimp only
    rw [resultBytes_idle]
    exact ⟨rfl, hacc⟩
  | fuel + 1, ⟨cur, failed⟩, arrived, bufLen, acc, hacc => by
    unfold wsLoop
    by_cases hfull : acc.length ≥ bufLen
    · rw [if_pos hfull]; exact ⟨rfl, hacc⟩
    · rw [if_neg hfull]
      cases cur with
      | none =>
        dsimp only
        cases failed with
        | true =>
          rw [if_pos rfl]
          cases acc with
          | nil => exact ⟨rfl, Nat.zero_le _⟩
          | cons a t => exact ⟨rfl, hacc⟩
        | false =>
          rw [if_neg Bool.false_ne_true]
          -- a message without payload, a failure and the end of the stream add nothing to what is owed
          cases arrived with
          | nil => dsimp only; rw [resultBytes_idle]; exact ⟨rfl, hacc⟩
          | cons m rest =>
            cases m <;> exact wsLoop_conserves fuel _ _ bufLen acc hacc
      | some c =>
        obtain ⟨data, index⟩ := c
        obtain ⟨h1, h2, h3⟩ := cursorRead_spec data index (bufLen - acc.length)
        dsimp only
        generalize cursorRead data index (bufLen - acc.length) = got at h1 h2 h3 ⊢
        have hacc' : (acc ++ got.1).length ≤ bufLen := by
          rw [List.length_append]; exact Nat.add_le_of_le_sub' hacc h2
        split
        · next hlt =>
          have ih := wsLoop_conserves fuel { cur := none, failed := failed } arrived bufLen _ hacc'
          rw [List.length_append] at hlt
          rw [h3 (Nat.lt_sub_of_add_lt (Nat.add_comm _ _ ▸ hlt)), List.append_nil] at h1
          refine ⟨ih.1.trans ?_, ih.2⟩
          rw [List.append_assoc]
          exact congrArg (acc ++ ·) (congrArg (· ++ payloads arrived) h1)
        · have ih := wsLoop_conserves fuel { cur := some (data, got.2), failed := failed } arrived bufLen _ hacc'
          refine ⟨ih.1.trans ?_, ih.2⟩
          rw [List.append_assoc]
          exact congrArg (acc ++ ·) ((List.append_assoc ..).symm.trans (congrArg (· ++ payloads arrived) h1))

/-- **One read.**  The bytes a read returns, followed by what the adapter still owes, are exactly what it
    owed before; the result fits the caller's buffer; would-block returns nothing (and loses nothing). -/
theorem ws_read_conserves (r : WsReader) (arrived : List WsMsg) (bufLen : Nat) :
    let out := r.read arrived bufLen
    resultBytes out.2.2 ++ residual out.1 out.2.1 = residual r arrived ∧ (resultBytes out.2.2).length ≤ bufLen := by
  exact wsLoop_conserves (2 * arrived.length + 4) r arrived bufLen [] (Nat.zero_le _)

/-- **A failure of the websocket loses nothing.**  The read that reports the failure hands over no bytes, and
    everything the adapter owed before it still owes afterwards: bytes of messages that arrived before the failure are
    delivered by the reads before the error is reported (they are never dropped in favour of the error). -/
theorem ws_error_loses_nothing (r : WsReader) (arrived : List WsMsg) (bufLen : Nat)
    (h : (r.read arrived bufLen).2.2 = .err) :
    residual (r.read arrived bufLen).1 (r.read arrived bufLen).2.1 = residual r arrived := by
  have hc := ws_read_conserves r arrived bufLen
  simp only [] at hc
  rw [h] at hc
  simpa [resultBytes] using hc.1

/-- non-vacuity: data and the end of the stream become readable together: the data is handed over first, the error next -/
example : ((({} : WsReader).read [.data [1, 2, 3], .eof] 4096).2.2, ((({} : WsReader).read [.data [1, 2, 3], .eof] 4096).1.read
    (({} : WsReader).read [.data [1, 2, 3], .eof] 4096).2.1 4096).2.2) = (.ok [1, 2, 3], .err) := by decide

/-- a session: before each read some more messages arrive -/
def wsSession : WsReader → List WsMsg → List (List WsMsg × Nat) → Bytes → Bytes × WsReader × List WsMsg
  | r, pending, [], got => (got, r, pending)
  | r, pending, (more, bufLen) :: rest, got =>
    let out := r.read (pending ++ more) bufLen
    wsSession out.1 out.2.1 rest (got ++ resultBytes out.2.2)

theorem payloads_append (a b : List WsMsg) : payloads (a ++ b) = payloads a ++ payloads b := by
  simp [payloads]

theorem residual_append (r : WsReader) (a b : List WsMsg) : residual r (a ++ b) = residual r a ++ payloads b := by
  simp [residual, payloads_append]

/-- **The byte stream is the concatenation of the message payloads**, for messages of any size and any
    arrival pattern, read with buffers of any sizes: everything handed to the engine so far, followed by what
    the adapter still holds, equals the concatenation of all payloads that have arrived. -/
theorem ws_stream_is_concatenation : ∀ (calls : List (List WsMsg × Nat)) (r : WsReader) (pending : List WsMsg) (got : Bytes),
    let out := wsSession r pending calls got
    out.1 ++ residual out.2.1 out.2.2 = got ++ residual r pending ++ payloads (calls.map (·.1)).flatten
  | [], r, pending, got => by simp [wsSession, payloads]
  | (more, bufLen) :: rest, r, pending, got => by
    have h1 := ws_read_conserves r (pending ++ more) bufLen
    have ih := ws_stream_is_concatenation rest (r.read (pending ++ more) bufLen).1 (r.read (pending ++ more) bufLen).2.1
      (got ++ resultBytes (r.read (pending ++ more) bufLen).2.2)
    simp only [wsSession] at ih ⊢
    rw [ih, List.append_assoc got, h1.1, residual_append]
    simp [payloads_append, List.append_assoc]

/-- non-vacuity: a 5-byte message read with a 3-byte buffer, then two messages arriving together -/
example : (wsSession {} [] [([.data [1, 2, 3, 4, 5]], 3), ([], 3), ([.data [6, 7], .control, .data [8]], 4096)] []).1 =
    [1, 2, 3, 4, 5, 6, 7, 8] := by decide

/-! ### websocket write adapter: the server decodes exactly the bytes reported as written, once, in order -/

/-- the payloads the adapter is answerable for, oldest first: those the socket has taken completely (what a server
    decodes) followed by those still queued inside the websocket layer -/
def owedMsgs (w : WsWriter) : List Bytes := w.delivered ++ w.queued.map (·.2)

/-- every queued frame still has bytes to send -/
def QueuedPositive (q : List (Nat × Bytes)) : Prop := ∀ x ∈ q, 0 < x.1

theorem takeBytes_conserves (q : List (Nat × Bytes)) (k : Nat) :
    (takeBytes q k).2 ++ (takeBytes q k).1.map (·.2) = q.map (·.2) := by
  induction q generalizing k with
  | nil => rfl
  | cons x rest ih =>
    obtain ⟨r, p⟩ := x
    simp only [takeBytes]
    split
    · simp only [List.map_cons, List.cons_append]
      rw [ih]
    · rfl

theorem takeBytes_positive (q : List (Nat × Bytes)) (k : Nat) (h : QueuedPositive q) : QueuedPositive (takeBytes q k).1 := by
  induction q generalizing k with
  | nil => intro x hx; cases hx
  | cons x rest ih =>
    obtain ⟨r, p⟩ := x
    simp only [takeBytes]
    split
    · exact ih _ (fun y hy => h y (List.mem_cons_of_mem _ hy))
    · rename_i hlt
      intro y hy
      rcases List.mem_cons.mp hy with rfl | hy
      · show 0 < r - k; omega
      · exact h y (List.mem_cons_of_mem _ hy)

theorem queuedBytes_cons (x : Nat × Bytes) (q : List (Nat × Bytes)) : queuedBytes (x :: q) = x.1 + queuedBytes q := by
  unfold queuedBytes
  rw [List.map_cons, List.foldl_cons, Nat.zero_add]
  exact List.foldl_assoc (α := Nat) (op := (· + ·)) (a₂ := 0)

theorem takeBytes_all (q : List (Nat × Bytes)) (k : Nat) (hk : queuedBytes q ≤ k) : (takeBytes q k).1 = [] := by
  induction q generalizing k with
  | nil => rfl
  | cons x rest ih =>
    obtain ⟨r, p⟩ := x
    rw [queuedBytes_cons] at hk
    simp only [takeBytes]
    have : k ≥ r := by simp only at hk; omega
    simp only [this, ↓reduceIte]
    exact ih _ (by simp only at hk; omega)

theorem queuedBytes_zero (q : List (Nat × Bytes)) (hp : QueuedPositive q) (h : queuedBytes q = 0) : q = [] := by
  cases q with
  | nil => rfl
  | cons x rest =>
    rw [queuedBytes_cons] at h
    have := hp x (List.mem_cons_self ..)
    omega

/-- **The flush loop neither loses nor duplicates a message** whatever the socket does, and when it reports success
    nothing is left queued. -/
theorem wsFlushLoop_conserves : ∀ (fuel : Nat) (w : WsWriter) (plan : List SockStep), QueuedPositive w.queued →
    owedMsgs (wsFlushLoop fuel w plan).1 = owedMsgs w ∧ QueuedPositive (wsFlushLoop fuel w plan).1.queued ∧
    ((wsFlushLoop fuel w plan).2.2 = .ok → (wsFlushLoop fuel w plan).1.queued = [])
  | 0, w, plan, hp => ⟨rfl, hp, by intro h; cases h⟩
  | fuel + 1, w, plan, hp => by
    unfold wsFlushLoop
    split
    · rename_i hz
      exact ⟨rfl, hp, fun _ => queuedBytes_zero _ hp hz⟩
    · cases plan with
      | nil =>
        simp only []
        refine ⟨?_, takeBytes_positive _ _ hp, fun _ => takeBytes_all _ _ (Nat.le_refl _)⟩
        simp only [owedMsgs, List.append_assoc]
        rw [takeBytes_conserves]
      | cons st rest =>
        cases st with
        | accept n =>
          simp only []
          have hp' := takeBytes_positive w.queued (min (max n 1) (queuedBytes w.queued)) hp
          obtain ⟨h1, h2, h3⟩ := wsFlushLoop_conserves fuel
            { queued := (takeBytes w.queued (min (max n 1) (queuedBytes w.queued))).1,
              delivered := w.delivered ++ (takeBytes w.queued (min (max n 1) (queuedBytes w.queued))).2 } rest hp'
          refine ⟨?_, h2, h3⟩
          rw [h1]
          simp only [owedMsgs, List.append_assoc]
          rw [takeBytes_conserves]
        | block | interrupt | fail => exact ⟨rfl, hp, nofun⟩

/-- **`write` consumes the whole buffer exactly once**: unless the socket fails, the caller is told `buf.length` and the
    buffer joins the owed messages as one message at the end - also when the socket would block half way through the frame
    (the bytes are queued, not to be offered again). -/
theorem ws_write_consumes_once (w : WsWriter) (buf : Bytes) (plan : List SockStep) (hp : QueuedPositive w.queued) :
    owedMsgs (w.write buf plan).1 = owedMsgs w ++ [buf] ∧ QueuedPositive (w.write buf plan).1.queued ∧
    ((w.write buf plan).2.2.1 ≠ .err → (w.write buf plan).2.2.1 = .ok ∧ (w.write buf plan).2.2.2 = buf.length) := by
  have hp1 : QueuedPositive (w.queued ++ [(wsClientFrameLen buf.length, buf)]) := by
    intro x hx
    rcases List.mem_append.mp hx with hx | hx
    · exact hp x hx
    · simp only [List.mem_singleton] at hx
      subst hx
      simp only [wsClientFrameLen]
      omega
  obtain ⟨h1, h2, _⟩ := wsFlushLoop_conserves (plan.length + 2) { w with queued := w.queued ++ [(wsClientFrameLen buf.length, buf)] } plan hp1
  have hw : owedMsgs { w with queued := w.queued ++ [(wsClientFrameLen buf.length, buf)] } = owedMsgs w ++ [buf] := by
    simp [owedMsgs]
  unfold WsWriter.write
  simp only []
  generalize wsFlushLoop (plan.length + 2) { w with queued := w.queued ++ [(wsClientFrameLen buf.length, buf)] } plan = res at h1 h2
  obtain ⟨w2, plan', r⟩ := res
  cases r with
  | err => exact ⟨h1.trans hw, h2, fun hne => absurd rfl hne⟩
  | ok | wouldBlock => exact ⟨h1.trans hw, h2, fun _ => ⟨rfl, rfl⟩⟩

/-- the connected loop's calls on the stream, with the bytes reported as written so far -/
def wsWriteSession : WsWriter → List SockStep → List WsCall → Bytes → WsWriter × List SockStep × Bytes × Option WResult
  | w, plan, [], written => (w, plan, written, none)
  | w, plan, .write buf :: rest, written =>
    (match w.write buf plan with
     | (w', plan', .err, _) => (w', plan', written, some .err)
     | (w', plan', _, n) => wsWriteSession w' plan' rest (written ++ buf.take n))
  | w, plan, .flush :: rest, written =>
    (match w.flush plan with
     | (w', plan', .err) => (w', plan', written, some .err)
     | (w', plan', r) => if rest.isEmpty then (w', plan', written, some r) else wsWriteSession w' plan' rest written)

/-- **Whatever the socket does, and however the driver interleaves writes and flushes: the messages a server decodes
    followed by the messages still queued are exactly the buffers reported as written, in order, each once** - until the
    socket fails, when the connection is given up and at most the message of the failing call (never reported as written)
    is queued in addition. -/
theorem ws_session_conserves : ∀ (calls : List WsCall) (w : WsWriter) (plan : List SockStep) (written : Bytes),
    QueuedPositive w.queued → (owedMsgs w).flatten = written →
    (∃ extra, (owedMsgs (wsWriteSession w plan calls written).1).flatten = (wsWriteSession w plan calls written).2.2.1 ++ extra ∧
      ((wsWriteSession w plan calls written).2.2.2 ≠ some .err → extra = [])) ∧
    QueuedPositive (wsWriteSession w plan calls written).1.queued
  | [], w, plan, written, hp, h => ⟨⟨[], by simpa [wsWriteSession] using h, fun _ => rfl⟩, hp⟩
  | .write buf :: rest, w, plan, written, hp, h => by
    obtain ⟨h1, h2, h3⟩ := ws_write_consumes_once w buf plan hp
    unfold wsWriteSession
    generalize w.write buf plan = res at h1 h2 h3
    obtain ⟨w', plan', r, n⟩ := res
    cases r with
    | err =>
      simp only []
      refine ⟨⟨buf, ?_, fun hne => absurd rfl hne⟩, h2⟩
      rw [h1, List.flatten_append, h]
      simp
    | ok =>
      simp only []
      have := h3 (by simp)
      simp only at this
      refine ws_session_conserves rest w' plan' _ h2 ?_
      rw [h1, List.flatten_append, h, this.2]
      simp
    | wouldBlock =>
      have := h3 (by simp)
      simp at this
  | .flush :: rest, w, plan, written, hp, h => by
    obtain ⟨h1, h2, _⟩ := wsFlushLoop_conserves (plan.length + 2) w plan hp
    unfold wsWriteSession WsWriter.flush
    generalize wsFlushLoop (plan.length + 2) w plan = res at h1 h2
    obtain ⟨w', plan', r⟩ := res
    cases r with
    | err => exact ⟨⟨[], by simp only []; rw [h1]; simpa using h, fun _ => rfl⟩, h2⟩
    | ok | wouldBlock =>
      simp only []
      split
      · exact ⟨⟨[], by rw [h1]; simpa using h, fun _ => rfl⟩, h2⟩
      · exact ws_session_conserves rest w' plan' written h2 (by rw [h1]; exact h)

/-- **After a flush that succeeds the server has decoded everything that was reported as written**: nothing stays behind
    in the websocket layer. -/
theorem ws_flush_ok_delivers_all (w : WsWriter) (plan : List SockStep) (written : Bytes) (hp : QueuedPositive w.queued)
    (h : (owedMsgs w).flatten = written) (hok : (w.flush plan).2.2 = .ok) : (w.flush plan).1.delivered.flatten = written := by
  obtain ⟨h1, _, h3⟩ := wsFlushLoop_conserves (plan.length + 2) w plan hp
  unfold WsWriter.flush at hok ⊢
  have hq := h3 hok
  rw [← h, ← h1]
  simp [owedMsgs, hq]

/-- non-vacuity: the socket takes 5 bytes of the 14-byte frame and then would block; the driver flushes later: one
    message, the eight bytes once -/
example : (wsWriteSession {} [.accept 5, .block] [.write [1, 2, 3, 4, 5, 6, 7, 8], .flush] []).1.delivered = [[1, 2, 3, 4, 5, 6, 7, 8]] ∧
    (wsWriteSession {} [.accept 5, .block] [.write [1, 2, 3, 4, 5, 6, 7, 8], .flush] []).2.2 = ([1, 2, 3, 4, 5, 6, 7, 8], some .ok) := by
  decide

/-! ### result slot: exactly one result -/

def isTerminal : SlotEvent → Bool
  | _ => true

/-- once a result has been delivered the slot ignores whatever happens to the operation afterwards -/
theorem step_unarmed (s : ResultSlot) (e : SlotEvent) (h : s.armed = false) : s.step e = s := by
  cases e <;> exact if_neg (h ▸ Bool.false_ne_true)

/-- **Exactly one result.**  However the operation's life goes — handled by the engine (possibly more than
    once by mistake), rejected at submission, or dropped unhandled when the loop ends — the caller receives
    exactly one result as soon as any of these has happened, and never a second one. -/
theorem exactly_one_result (e : SlotEvent) (evs : List SlotEvent) :
    ((e :: evs).foldl ResultSlot.step {}).delivered.length = 1 := by
  have h1 : (ResultSlot.step {} e).delivered.length = 1 ∧ (ResultSlot.step {} e).armed = false := by
    cases e <;> exact ⟨rfl, rfl⟩
  rw [List.foldl_cons]
  generalize ResultSlot.step {} e = s at h1
  induction evs with
  | nil => exact h1.1
  | cons x xs ih => rw [List.foldl_cons, step_unarmed s x h1.2]; exact ih

end GV.Props.C13
