/-
  Props/C20.lean — AWS builder: safe client id, intact custom-auth parameters, 3.1.1 defaults if unset.
  The reader's side is `Spec.parseQuery` (Spec/Query.lean, written from RFC 3986, independent of the builder).
-/
import GV.Proofs.Query
namespace GV.Props.C20
open GV Spec

/-! ### custom authentication -/

/-- the parameters a configuration stands for, in order; `raw` is the signature as signed (before any encoding) -/
def expectedParams (a : CustomAuth) (raw : Bytes) : List (Bytes × Bytes) :=
  (match a.authorizer with | some n => [(authorizerKey, n)] | none => [])
  ++ (match a.signed with | some (_, k, v) => [(signatureKey, raw), (k, v)] | none => [])

/-- the signature as supplied stands for `raw`: it is `raw` itself (raw base64 contains no `%`), or any
    percent-encoding of it (either hex case) that either contains a `%` or needs none -/
def SignatureStandsFor (sig raw : Bytes) : Prop :=
  (sig = raw ∧ hasPct raw = false) ∨ (pctDecode sig = some raw ∧ (hasPct sig = true ∨ sig = raw))

/-- Percent-decoding undoes the builder's encoding for every byte string. -/
theorem percent_round_trip (s : Bytes) : pctDecode (pctEncode s) = some s := pctDecode_pctEncode s

/-- A raw signature (no `%`) goes out encoded once: it decodes back to itself. -/
theorem signature_raw (raw : Bytes) (h : hasPct raw = false) : pctDecode (finalSignature raw) = some raw := by
  simp [finalSignature, h, pctDecode_pctEncode]

/-- A pre-encoded signature is not encoded again: the query carries the same bytes as for the raw one,
    whatever the signature is. -/
theorem signature_preencoded_same_wire (raw : Bytes) (h : hasPct raw = false) :
    finalSignature (pctEncode raw) = finalSignature raw := by
  unfold finalSignature
  simp only [h, Bool.not_false, ↓reduceIte]
  cases hp : hasPct (pctEncode raw) with
  | true => simp
  | false =>
    have hu := unreserved_of_encode_no_pct raw hp
    simp [pctEncode_id_of_unreserved raw hu]

/-- Encoded exactly once, whether supplied raw or pre-encoded: the signature parameter decodes to the signed value. -/
theorem signature_encoded_once (sig raw : Bytes) (h : SignatureStandsFor sig raw) :
    pctDecode (finalSignature sig) = some raw := by
  rcases h with ⟨rfl, h⟩ | ⟨hd, hp | rfl⟩
  · exact signature_raw _ h
  · simp [finalSignature, hp, hd]
  · cases hp : hasPct sig with
    | true => simp [finalSignature, hp, hd]
    | false => exact signature_raw _ hp

theorem key_literals : pctDecode authorizerKey = some authorizerKey ∧ pctDecode signatureKey = some signatureKey := by
  decide +kernel

/-- segment-by-segment: each emitted parameter is `key=value` with both sides decodable to the expected pair -/
def Decodable : List Bytes → List (Bytes × Bytes) → Prop
  | [], [] => True
  | seg :: ss, kv :: kvs => (∃ k v, seg = k ++ 61 :: v ∧ pctDecode k = some kv.1 ∧ pctDecode v = some kv.2) ∧ Decodable ss kvs
  | _, _ => False

/-- every parameter the builder emits is `key=value` with both sides decodable to the configured pair -/
theorem params_decodable (a : CustomAuth) (raw : Bytes)
    (hs : ∀ sig k v, a.signed = some (sig, k, v) → SignatureStandsFor sig raw) :
    Decodable (queryParams a) (expectedParams a raw) := by
  unfold queryParams expectedParams
  cases hsg : a.signed with
  | none =>
    cases a.authorizer with
    | none => simp [Decodable]
    | some n => exact ⟨⟨_, _, rfl, key_literals.1, pctDecode_pctEncode n⟩, trivial⟩
  | some t =>
    obtain ⟨sig, k, v⟩ := t
    have h1 := signature_encoded_once sig raw (hs sig k v hsg)
    cases a.authorizer with
    | none =>
      exact ⟨⟨_, _, rfl, key_literals.2, h1⟩, ⟨_, _, rfl, pctDecode_pctEncode k, pctDecode_pctEncode v⟩, trivial⟩
    | some n =>
      exact ⟨⟨_, _, rfl, key_literals.1, pctDecode_pctEncode n⟩, ⟨_, _, rfl, key_literals.2, h1⟩,
        ⟨_, _, rfl, pctDecode_pctEncode k, pctDecode_pctEncode v⟩, trivial⟩

theorem mapAll_parsePair : ∀ (segs : List Bytes) (exp : List (Bytes × Bytes)), Decodable segs exp →
    mapAll parsePair segs = some exp ∧ ∀ s ∈ segs, ∀ b ∈ s, (b == 38) = false
  | [], [], _ => ⟨rfl, fun s hs => by cases hs⟩
  | [], _ :: _, h => by simp [Decodable] at h
  | _ :: _, [], h => by simp [Decodable] at h
  | seg :: ss, kv :: kvs, h => by
    obtain ⟨⟨k, v, rfl, hk, hv⟩, hrest⟩ := h
    have ih := mapAll_parsePair ss kvs hrest
    refine ⟨by simp [mapAll, parsePair_ok k v _ _ hk hv, ih.1], ?_⟩
    intro s hs
    rcases List.mem_cons.mp hs with rfl | hs
    · exact pair_no_amp k v _ _ hk hv
    · exact ih.2 s hs

/-- **Custom-auth username.**  The CONNECT username is the user's username, a `?`, and a query string that a
    standard reader parses (well-formed) into exactly the configured authorizer name, signature and token
    key/value, in that order — for all names, keys, values and usernames, and for every signature supplied raw
    or pre-encoded.  The password is the configured one. -/
theorem custom_auth_username (a : CustomAuth) (raw : Bytes)
    (hs : ∀ sig k v, a.signed = some (sig, k, v) → SignatureStandsFor sig raw) :
    ∃ q, a.build = ((a.username.getD []) ++ 63 :: q, a.password) ∧ parseQuery q = some (expectedParams a raw) := by
  refine ⟨joinAmp (queryParams a), rfl, ?_⟩
  have hp := params_decodable a raw hs
  have ⟨hm, hamp⟩ := mapAll_parsePair (queryParams a) (expectedParams a raw) hp
  by_cases hne : queryParams a = []
  · have : expectedParams a raw = [] := by
      rw [hne] at hp
      cases hx : expectedParams a raw with
      | nil => rfl
      | cons _ _ => rw [hx] at hp; simp [Decodable] at hp
    simp [parseQuery, hne, joinAmp, this]
  · have hq : (joinAmp (queryParams a)).isEmpty = false := by
      -- a non-empty parameter list joins to a non-empty string: every parameter contains `=`
      cases hqp : queryParams a with
      | nil => exact absurd hqp hne
      | cons x rest =>
        rw [hqp] at hp
        cases hx : expectedParams a raw with
        | nil => rw [hx] at hp; simp [Decodable] at hp
        | cons kv kvs =>
          rw [hx] at hp
          obtain ⟨⟨k, v, rfl, _, _⟩, _⟩ := hp
          cases rest <;> cases k <;> simp [joinAmp]
    unfold parseQuery
    rw [hq, splitAll_joinAmp _ hne hamp]
    simpa using hm

/-- non-vacuity: a signed configuration with hostile characters everywhere, signature supplied raw -/
example :
    let a : CustomAuth := { authorizer := some [38, 61], signed := some ([43, 47, 61], [37], [38, 38]), username := some [63] }
    (∀ sig k v, a.signed = some (sig, k, v) → SignatureStandsFor sig [43, 47, 61]) ∧
    parseQuery ((a.build).1.drop 2) = some (expectedParams a [43, 47, 61]) := by
  refine ⟨?_, by decide +kernel⟩
  intro sig k v h
  simp at h
  obtain ⟨rfl, _, _⟩ := h
  exact .inl ⟨rfl, by decide⟩

/-! ### final connect options -/

/-- The client id handed to the client is never empty (the generated id is a 36-character UUID). -/
theorem client_id_nonempty (auth : Option (Bytes × Option Bytes)) (uuid : Bytes) (o : ConnectOpts) (hu : uuid ≠ []) :
    ∃ c, (finalConnectOptions auth uuid o).clientId = some c ∧ c ≠ [] := by
  unfold finalConnectOptions
  cases hc : o.clientId with
  | none => cases auth <;> exact ⟨uuid, by simp, hu⟩
  | some c =>
    cases c with
    | nil => cases auth <;> exact ⟨uuid, by simp, hu⟩
    | cons x r => cases auth <;> exact ⟨x :: r, by simp [hc], by simp⟩

/-- A non-empty user client id is kept; otherwise the freshly generated one is used. -/
theorem client_id_kept_or_generated (auth : Option (Bytes × Option Bytes)) (uuid : Bytes) (o : ConnectOpts) :
    (finalConnectOptions auth uuid o).clientId =
      (match o.clientId with | some c => if c.isEmpty then some uuid else some c | none => some uuid) := by
  unfold finalConnectOptions
  cases hc : o.clientId with
  | none => cases auth <;> rfl
  | some c => cases c <;> cases auth <;> simp [hc]

/-- Without custom auth every other connect option is the user's. -/
theorem connect_options_preserved (uuid : Bytes) (o : ConnectOpts) :
    { finalConnectOptions none uuid o with clientId := o.clientId } = o := by
  obtain ⟨_, _, cid⟩ := o
  cases cid with
  | none => rfl
  | some c => cases c with
    | nil => rfl
    | cons x r => rfl

/-- With custom auth the username is the built one, the password the configured one (the user's when none is
    configured), and every other connect option is the user's. -/
theorem connect_options_preserved_custom (u : Bytes) (p : Option Bytes) (uuid : Bytes) (o : ConnectOpts) :
    let f := finalConnectOptions (some (u, p)) uuid o
    f.username = some u ∧ f.password = (match p with | some p => some p | none => o.password) ∧
    { f with clientId := o.clientId, username := o.username, password := o.password } = o := by
  obtain ⟨_, _, cid⟩ := o
  cases cid with
  | none => exact ⟨rfl, rfl, rfl⟩
  | some c => cases c with
    | nil => exact ⟨rfl, rfl, rfl⟩
    | cons x r => exact ⟨rfl, rfl, rfl⟩

/-! ### 3.1.1 defaults -/

/-- The drain policy and retry limit are set exactly when the client is MQTT 3.1.1 and the user set neither;
    nothing else ever changes. -/
theorem defaults_only_when_unset (o : ClientOpts) :
    applyAwsDefaults o =
      if o.v311 = true ∧ o.drain = none ∧ o.retries = none then { o with drain := some true, retries := some 2 } else o := by
  unfold applyAwsDefaults
  cases o.v311 <;> cases o.drain <;> cases o.retries <;> simp

theorem defaults_keep_user_choice (o : ClientOpts) (h : o.v311 = false ∨ o.drain ≠ none ∨ o.retries ≠ none) :
    applyAwsDefaults o = o := by
  rw [defaults_only_when_unset]
  rcases h with h | h | h <;> simp [h]

end GV.Props.C20
