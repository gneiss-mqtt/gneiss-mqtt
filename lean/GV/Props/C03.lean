/-
  Props/C03.lean — Inbound decoding is faithful, chunking-invariant and robust to hostile bytes.
-/
import GV.Model.Decode
import GV.Spec.Tables
import GV.Proofs.Decoder
import GV.Proofs.Vli
import GV.Proofs.DecodeSlice
import GV.Proofs.SizeVerdict
namespace GV.Props.C03
open GV

/-- Chunking invariance: for every decoder state, every byte stream and every way of splitting it
    into reads (empty reads, 1-byte reads, splits inside the length prefix included), the decoded
    packets, the verdict and the resulting decoder state equal those of the unsplit stream. -/
theorem chunk_invariant (cfg : DecodeCfg) (d : Decoder) (chunks : List Bytes) :
    feedChunksB cfg d chunks = feed cfg d chunks.flatten :=
  feedChunks_eq_feed_flatten cfg d chunks

/-- Two partitions of the same stream cannot be told apart. -/
theorem chunkings_agree (cfg : DecodeCfg) (d : Decoder) (c₁ c₂ : List Bytes) (h : c₁.flatten = c₂.flatten) :
    feedChunksB cfg d c₁ = feedChunksB cfg d c₂ := by
  rw [chunk_invariant, chunk_invariant, h]

/-- Feeding is an action of the byte-string monoid. -/
theorem feed_append_law (cfg : DecodeCfg) (d : Decoder) (a b : Bytes) :
    feed cfg d (a ++ b) = (feed cfg d a).andThen (fun d' => feed cfg d' b) :=
  feed_append cfg d a b

/-- Once failed, always failed: a terminal decoder rejects every further byte. -/
theorem terminal_absorbs (cfg : DecodeCfg) (d : Decoder) (b : UInt8) (h : d.state = .terminal) :
    stepByte cfg d b = (d, [], some .decodingFailure) :=
  stepByte_terminal cfg d b h

/-- Early rejection: the byte that completes a Remaining Length announcing more than the maximum
    packet size in force makes the decoder fail at once; no body byte is ever buffered. -/
theorem early_reject (cfg : DecodeCfg) (d : Decoder) (b : UInt8) (rl : Nat) (rest : Bytes)
    (hs : d.state = .readLength) (hv : decodeVli (d.scratch ++ [b]) = .value rl rest)
    (hbig : ¬ rl + 1 + (d.scratch ++ [b]).length ≤ cfg.limit) :
    (stepByte cfg d b).2.2 = some .decodingFailure ∧ (stepByte cfg d b).1.state = .terminal ∧
    (stepByte cfg d b).2.1 = [] := by
  rw [stepByte_readLength cfg d b hs, stepLength_value cfg d b rl rest hv, if_neg hbig]
  exact ⟨rfl, rfl, rfl⟩

/-- The other half of the size verdict: a completed Remaining Length whose packet fits the maximum in force is
    accepted and the decoder waits for exactly `rl` body bytes.  With `early_reject`: the verdict at the header is a
    function of the total size `1 + prefix length + rl` alone — the prefix bytes are counted from the scratch buffer,
    which holds all of them wherever the reads ended (`chunk_invariant`). -/
theorem within_limit_accepted (cfg : DecodeCfg) (d : Decoder) (b : UInt8) (rl : Nat) (rest : Bytes)
    (hs : d.state = .readLength) (hv : decodeVli (d.scratch ++ [b]) = .value rl rest)
    (hfit : rl + 1 + (d.scratch ++ [b]).length ≤ cfg.limit) (hrl : rl ≠ 0) :
    stepByte cfg d b = ({ d with state := .readBody, scratch := [], remaining := rl }, [], none) := by
  rw [stepByte_readLength cfg d b hs, stepLength_value cfg d b rl rest hv, if_pos hfit, if_neg hrl]

/-- Non-vacuity (the instance a seeded change got wrong): a PUBLISH of 203 bytes (`30 C8 01 ...`, Remaining Length
    200) under a maximum of 202 is rejected at the third byte wherever the reads end; under 203 it is accepted. -/
example : (feedChunksB { version := .v5, maxSize := 202 } {} [[0x30, 0xC8], [0x01]]).err = some .decodingFailure ∧
    (feedChunksB { version := .v5, maxSize := 202 } {} [[0x30], [0xC8], [0x01]]).err = some .decodingFailure ∧
    (feedChunksB { version := .v5, maxSize := 202 } {} [[0x30, 0xC8, 0x01]]).err = some .decodingFailure ∧
    (feedChunksB { version := .v5, maxSize := 203 } {} [[0x30, 0xC8], [0x01]]).err = none := by
  decide

/-- **Size verdict on the stream (reject).**  A fixed header whose Remaining Length `c ++ [last]` (continuation
    bytes, then the final byte) announces a packet larger than the maximum in force fails the decoder at the byte that
    completes the length — no packet, nothing of the body consumed — and by `chunk_invariant` this holds wherever
    the reads end, inside the prefix included. -/
theorem oversize_rejected_on_stream (cfg : DecodeCfg) (fb last : UInt8) (c rest : Bytes) (rl : Nat) (tl : Bytes)
    (hc : AllCont c) (hl : c.length ≤ 3) (hv : decodeVli (c ++ [last]) = .value rl tl)
    (hbig : cfg.limit < rl + 1 + (c.length + 1)) :
    (feed cfg {} (fb :: (c ++ last :: rest))).err = some .decodingFailure ∧
    (feed cfg {} (fb :: (c ++ last :: rest))).packets = [] ∧
    (feed cfg {} (fb :: (c ++ last :: rest))).dec.state = .terminal := by
  rw [feed_header cfg fb c (last :: rest) hc (Nat.lt_succ_of_le hl),
    feed_cons_err cfg { state := .readLength, firstByte := fb, scratch := c } _ last rest [] .decodingFailure
      (by rw [stepByte_readLength cfg _ last rfl, stepLength_value cfg _ last rl tl hv,
        if_neg (Nat.not_le.2 (by rw [List.length_append]; exact hbig))])]
  exact ⟨rfl, rfl, rfl⟩

/-- **Size verdict on the stream (accept).**  The same header within the limit leaves the decoder waiting for exactly
    `rl` body bytes. -/
theorem fitting_header_accepted_on_stream (cfg : DecodeCfg) (fb last : UInt8) (c : Bytes) (rl : Nat) (tl : Bytes)
    (hc : AllCont c) (hl : c.length ≤ 3) (hv : decodeVli (c ++ [last]) = .value rl tl)
    (hfit : rl + 1 + (c.length + 1) ≤ cfg.limit) (hrl : rl ≠ 0) :
    feed cfg {} (fb :: (c ++ [last])) =
      { dec := { state := .readBody, firstByte := fb, scratch := [], remaining := rl }, packets := [], err := none } := by
  rw [feed_header cfg fb c [last] hc (Nat.lt_succ_of_le hl),
    feed_cons_ok cfg _ _ last [] [] (within_limit_accepted cfg { state := .readLength, firstByte := fb, scratch := c } last rl tl
      rfl hv (by rw [List.length_append]; exact hfit) hrl)]
  rfl

/-- non-vacuity: the prefix `C8 01` (Remaining Length 200) meets the hypotheses of the two theorems above -/
example : AllCont [0xC8] ∧ decodeVli ([0xC8] ++ [0x01]) = .value 200 [] := by
  refine ⟨?_, by decide⟩
  intro b hb; simp at hb; subst hb; decide

/-- **Every conformant header.**  Whatever packet type and flags, a Remaining Length `rl` written as the standard
    prescribes and announcing `1 + prefix + rl` bytes above the maximum in force fails a fresh decoder at the last prefix
    byte, with no packet surfaced, whatever follows and (by `chunk_invariant`) wherever the reads end. -/
theorem conformant_oversize_header_rejected (cfg : DecodeCfg) (fb : UInt8) (rl : Nat) (rest : Bytes) (h : rl ≤ maxVli)
    (hbig : cfg.limit < rl + 1 + (Spec.encVbi rl).length) :
    (feed cfg {} (fb :: (Spec.encVbi rl ++ rest))).err = some .decodingFailure ∧
    (feed cfg {} (fb :: (Spec.encVbi rl ++ rest))).packets = [] := by
  obtain ⟨c, last, he, hc, hl⟩ := encodeVliLoop_split 3 rl
  rw [encodeVliLoop_eq_spec rl h] at he
  have hv := decodeVli_encVbi rl [] h
  rw [he] at hv hbig
  simp only [List.append_nil] at hv
  have := oversize_rejected_on_stream cfg fb last c rest rl [] hc hl hv (by simpa using hbig)
  rw [he]
  simp only [List.append_assoc, List.singleton_append]
  exact ⟨this.1, this.2.1⟩

/-- the same for every way of cutting that stream into reads -/
theorem conformant_oversize_any_chunking (cfg : DecodeCfg) (fb : UInt8) (rl : Nat) (rest : Bytes) (chunks : List Bytes)
    (h : rl ≤ maxVli) (hbig : cfg.limit < rl + 1 + (Spec.encVbi rl).length) (hch : chunks.flatten = fb :: (Spec.encVbi rl ++ rest)) :
    (feedChunksB cfg {} chunks).err = some .decodingFailure ∧ (feedChunksB cfg {} chunks).packets = [] := by
  rw [chunk_invariant, hch]; exact conformant_oversize_header_rejected cfg fb rl rest h hbig

/-- The reason-code tables the decoder accepts are exactly the standard's, packet by packet. -/
theorem tables_match_standard :
    connectCodes = Spec.connackCodes ∧ pubackCodes = Spec.pubackCodes ∧ pubrecCodes = Spec.pubrecCodes ∧
    pubrelCodes = Spec.pubrelCodes ∧ pubcompCodes = Spec.pubcompCodes ∧ subackCodes = Spec.subackCodes ∧
    unsubackCodes = Spec.unsubackCodes ∧ disconnectCodes = Spec.disconnectCodes ∧ authCodes = Spec.authCodes ∧
    suback311Codes = Spec.suback311Codes ∧ connect311Map.map (·.1) = Spec.connack311Codes := by
  decide

/-- Length prefixes written by a conformant peer are read back exactly, whatever follows. -/
theorem length_prefix_round_trip (v : Nat) (rest : Bytes) (h : v ≤ maxVli) :
    decodeVli (Spec.encVbi v ++ rest) = .value v rest :=
  decodeVli_encVbi v rest h

/-! ### the decoder that is executed and compared with the implementation

`decodeBytes` is the literal, slice-level transcription of `Decoder::decode_bytes` (it takes the body out of
the read buffer in one piece and only uses the scratch buffer across calls); it is what `gvdriver` runs and what
the correspondence check compares with the real decoder.  The theorems above are about the byte-at-a-time
machine `feed`; the two are the same function on every decoder state that can occur between calls. -/

/-- **The executed decoder is the proven one**, for every slice and every between-calls decoder state. -/
theorem executed_decoder_is_feed (cfg : DecodeCfg) (d : Decoder) (bs : Bytes) (h : DInv d) :
    decodeBytes cfg d bs = feed cfg d bs :=
  decodeBytes_eq_feed cfg d bs h

/-- successive `decode_bytes` calls, one per read (a failed decoder ignores the rest) -/
def sliceChunks (cfg : DecodeCfg) : Decoder → List Bytes → FeedResult
  | d, [] => { dec := d, packets := [], err := none }
  | d, c :: cs => (decodeBytes cfg d c).andThen (fun d' => sliceChunks cfg d' cs)

theorem sliceChunks_eq_feedChunks (cfg : DecodeCfg) : ∀ (chunks : List Bytes) (d : Decoder), DInv d →
    sliceChunks cfg d chunks = feedChunksB cfg d chunks
  | [], _, _ => rfl
  | c :: cs, d, h => by
    simp only [sliceChunks, feedChunksB, decodeBytes_eq_feed cfg d c h]
    cases herr : (feed cfg d c).err with
    | some e => simp [FeedResult.andThen, herr]
    | none =>
      have hinv := feed_keeps_inv cfg c d h herr
      simp only [FeedResult.andThen, herr, sliceChunks_eq_feedChunks cfg cs _ hinv]

/-- **Chunking invariance of the executed decoder**: starting from a fresh decoder (or any between-calls
    state), every way of splitting a stream into reads yields the packets, verdict and state of the unsplit stream. -/
theorem executed_decoder_chunk_invariant (cfg : DecodeCfg) (d : Decoder) (h : DInv d) (chunks : List Bytes) :
    sliceChunks cfg d chunks = decodeBytes cfg d chunks.flatten := by
  rw [sliceChunks_eq_feedChunks cfg chunks d h, chunk_invariant, decodeBytes_eq_feed cfg d _ h]

theorem fresh_decoder_ok : DInv {} := DInv_init

/-- Non-vacuity: a PUBACK and a SUBACK split in the middle of the length prefix and of the body. -/
example :
    (feedChunksB { version := .v5, maxSize := 0 } {} [[0x40], [0x02, 0x00], [0x05, 0x90, 0x04], [0x00, 0x07, 0x00], [0x01]]).packets
      = [.puback { packetId := 5 }, .suback { packetId := 7, reasonCodes := [1] }] := by
  decide

end GV.Props.C03
