/-
  Props/C06.lean — Packet ids are non-zero, unique among in-flight operations, and never leak.
  About Model/Engine.lean: `acquire_free_packet_id`, `acquire_packet_id_for_operation`,
  `unbind_operation_packet_id`, the release in `complete_operation_as_success/failure` (protocol.rs).
-/
import GV.Proofs.PacketIds
import GV.Props.C01
namespace GV.Props.C06
open GV

/-- **The search loop is sound for every cursor position and any number of wrap-arounds**: an id it returns
    is non-zero, at most 65535 and not reserved; the cursor it leaves behind is again a legal id.
    (Proved in Proofs/PacketIds.lean by induction over the loop.) -/
theorem search_loop_sound (allocated : List (Nat × Nat)) (start fuel check next : Nat) (hc : inRange check) (hn : inRange next) :
    inRange (acquireLoop allocated start fuel check next).2 ∧
    ∀ pid, (acquireLoop allocated start fuel check next).1 = some pid → inRange pid ∧ allocated.lookup pid = none :=
  acquireLoop_sound allocated start fuel check next hc hn

/-- **Allocation.**  With the cursor at a legal id, a successful allocation returns a non-zero id that no
    in-flight operation holds, reserves it for the requesting operation and for nobody else, and leaves every
    other reservation as it was. -/
theorem acquireFreeId_spec (e : Engine) (opId : Nat) (h : inRange e.nextPacketId) :
    inRange (e.acquireFreeId opId).1.nextPacketId ∧
    ∀ pid, (e.acquireFreeId opId).2 = some pid →
      inRange pid ∧ e.allocated.lookup pid = none ∧ (e.acquireFreeId opId).1.allocated.lookup pid = some opId ∧
      ∀ other, other ≠ pid → (e.acquireFreeId opId).1.allocated.lookup other = e.allocated.lookup other := by
  have hs := acquireLoop_sound e.allocated e.nextPacketId 65536 e.nextPacketId e.nextPacketId h h
  obtain ⟨next, ⟨hl, he⟩ | ⟨p, hl, he⟩⟩ := acquireFreeId_cases e opId
  · rw [hl] at hs; rw [he]
    exact ⟨hs.1, nofun⟩
  · rw [hl] at hs; rw [he]
    refine ⟨hs.1, fun pid hp => ?_⟩
    cases hp
    exact ⟨(hs.2 p rfl).1, (hs.2 p rfl).2, lookup_mapInsert_self _ _ _, fun other ho => lookup_mapInsert_ne _ _ _ _ ho⟩

/-- **An operation that already has an id keeps it** (a retransmission after a resumed reconnect reuses the
    identifier of the original); operations that need none get none. -/
theorem bound_operation_keeps_its_id (e : Engine) (id : Nat) (o : Op) (ho : e.op? id = some o) (hb : o.packetId.isSome = true) :
    e.acquireIdFor id = (e, .ok) := by
  simp [Engine.acquireIdFor, ho, hb]

theorem qos0_gets_no_id (e : Engine) (id : Nat) (o : Op) (ho : e.op? id = some o) (hb : o.packetId = none)
    (hn : needsPacketId o.packet = false) : e.acquireIdFor id = (e, .ok) := by
  simp [Engine.acquireIdFor, ho, hb, hn]

/-- marking a publish as duplicate for retransmission does not touch its packet id -/
theorem dup_flag_keeps_id (p : Publish) (v : Bool) : (match setDup (.publish p) v with | .publish q => q.packetId | _ => 0) = p.packetId := rfl

/-- **Release.**  Completing an operation (success or failure) frees its id: afterwards the id is not
    reserved and the operation is no longer tracked. -/
theorem release_frees_id (e : Engine) (o : Op) (pid : Nat) (h : o.packetId = some pid) :
    (e.releaseIds o).allocated.lookup pid = none ∧ (e.releaseIds o).pendingPub.lookup pid = none ∧
    (e.releaseIds o).pendingNonPub.lookup pid = none := by
  simp [Engine.releaseIds, h, lookup_mapErase_self]

theorem release_keeps_others (e : Engine) (o : Op) (pid other : Nat) (h : o.packetId = some pid) (hne : other ≠ pid) :
    (e.releaseIds o).allocated.lookup other = e.allocated.lookup other := by
  simp [Engine.releaseIds, h, lookup_mapErase_ne _ _ _ hne]

/-- **Session lost: the id is given back** and the operation restarts without one. -/
theorem unbind_frees_id (e : Engine) (id : Nat) (o : Op) (pid : Nat) (ho : e.op? id = some o) (hid : o.id = id) (h : o.packetId = some pid) :
    (e.unbind id).allocated.lookup pid = none ∧ ((e.unbind id).op? id).bind (·.packetId) = none := by
  subst hid
  unfold Engine.op? at ho
  simp only [Engine.unbind, Engine.op?, ho, h, Engine.setOp]
  exact ⟨lookup_mapErase_self _ _, by rw [lookup_mapInsert_self]; rfl⟩

/-- after a reset nothing stays reserved and the cursor restarts at 1 -/
theorem reset_frees_everything (e : Engine) : e.reset.allocated = [] ∧ e.reset.nextPacketId = 1 ∧ e.reset.ops = [] := by
  simp [Engine.reset]

/-- non-vacuity: ids 1 and 2 taken, cursor at 1: the search yields 3; cursor at 65535 with 65535 taken wraps to 1 -/
example : acquireLoop [(1, 10), (2, 11)] 1 65536 1 1 = (some 3, 4) := by decide
example : acquireLoop [(65535, 10)] 65535 65536 65535 65535 = (some 1, 2) := by decide

/-! ### every history

  After any sequence of events (user submissions, connection opened / closed, any inbound bytes, write completions,
  service calls with any buffer size, time queries, resets — in any order) from a fresh engine, for any configuration.
  Corollaries of the engine invariant (`inv_after`). -/

/-- **Non-zero and in range.**  Every reserved packet id is between 1 and 65535, and so is the allocator's cursor. -/
theorem reserved_ids_in_range (cfg : Config) (evs : List Event) :
    (∀ x ∈ (runEvents (Engine.new cfg) evs).1.allocated, 1 ≤ x.1 ∧ x.1 ≤ 65535) ∧
    1 ≤ (runEvents (Engine.new cfg) evs).1.nextPacketId ∧ (runEvents (Engine.new cfg) evs).1.nextPacketId ≤ 65535 :=
  (C01.big_after cfg evs).p1r

/-- **Never leaks.**  Every reserved id is held by a tracked operation that carries exactly that id: once an operation
    is resolved (and no longer tracked) its id is free again. -/
theorem reserved_id_is_held (cfg : Config) (evs : List Event) (pid id : Nat)
    (h : (runEvents (Engine.new cfg) evs).1.allocated.lookup pid = some id) :
    ∃ o, (runEvents (Engine.new cfg) evs).1.ops.lookup id = some o ∧ o.packetId = some pid ∧ pktPid o.packet = pid := by
  obtain ⟨o, ho, hp⟩ := (C01.big_after cfg evs).p2 pid id h
  exact ⟨o, ho, hp, (C01.big_after cfg evs).p4 id o pid ho hp⟩

/-- an operation that carries an id has it reserved for itself, needs one, and its packet carries the same id -/
theorem carried_id_is_reserved (cfg : Config) (evs : List Event) (id pid : Nat) (o : Op)
    (h : (runEvents (Engine.new cfg) evs).1.ops.lookup id = some o) (p : o.packetId = some pid) :
    (runEvents (Engine.new cfg) evs).1.allocated.lookup pid = some id ∧ needsPacketId o.packet = true ∧ pktPid o.packet = pid := by
  have b := C01.big_after cfg evs
  refine ⟨?_, b.n id o h (by rw [p]; rfl), b.p4 id o pid h p⟩
  rcases b.p3 id o pid h p with a | a
  · exact a
  · cases a.1

/-- **Unique among in-flight operations.**  Two tracked operations never carry the same packet id. -/
theorem in_flight_ids_unique (cfg : Config) (evs : List Event) (id1 id2 pid : Nat) (o1 o2 : Op)
    (h1 : (runEvents (Engine.new cfg) evs).1.ops.lookup id1 = some o1) (h2 : (runEvents (Engine.new cfg) evs).1.ops.lookup id2 = some o2)
    (p1 : o1.packetId = some pid) (p2 : o2.packetId = some pid) : id1 = id2 := by
  have a := (carried_id_is_reserved cfg evs id1 pid o1 h1 p1).1
  rw [(carried_id_is_reserved cfg evs id2 pid o2 h2 p2).1] at a
  exact (Option.some.inj a).symm

/-- the operation being written while connected has a packet id if its packet needs one (no packet goes out with id 0) -/
theorem written_operation_has_its_id (cfg : Config) (evs : List Event) (id : Nat) (o : Op)
    (hs : (runEvents (Engine.new cfg) evs).1.state = .connected) (hc : (runEvents (Engine.new cfg) evs).1.current = some id)
    (h : (runEvents (Engine.new cfg) evs).1.ops.lookup id = some o) (hn : needsPacketId o.packet = true) :
    ∃ pid, o.packetId = some pid ∧ 1 ≤ pid ∧ pid ≤ 65535 := by
  have b := C01.big_after cfg evs
  obtain ⟨pid, hp⟩ := Option.isSome_iff_exists.mp (b.c1 hs id hc o h hn)
  have hr := (carried_id_is_reserved cfg evs id pid o h hp).1
  exact ⟨pid, hp, b.p1r.1 (pid, id) (mem_of_lookup hr)⟩

/-- non-vacuity: a history after which an id is reserved and held (QoS 1 publish written on an established connection) -/
example : ((runEvents (Engine.new {}) [.user 0 (.publish { qos := 1, topic := [97] } 7 none), .opened 1 100, .service 2 4096 0,
      .writeDone 3, .data 4 [0x20, 0x03, 0x00, 0x00, 0x00], .service 5 4096 0]).1.allocated) = [(1, 1)] := by
  decide +kernel

/-- **Two packet ids never await acknowledgement for the same operation**: after any history the operations named by the
    pending-publish table are pairwise distinct, and so are those named by the pending-subscribe table. -/
theorem pending_tables_name_distinct_operations (cfg : Config) (evs : List Event) :
    (vals (runEvents (Engine.new cfg) evs).1.pendingPub).Nodup ∧ (vals (runEvents (Engine.new cfg) evs).1.pendingNonPub).Nodup := by
  have b := C01.big_after cfg evs
  exact ⟨vals_nodup _ b.tps (runEvents (Engine.new cfg) evs).1.ops (fun pid id hl => by
      obtain ⟨o, ho, hpid, _⟩ := b.tp pid id hl; exact ⟨o, ho, hpid⟩),
    vals_nodup _ b.tns (runEvents (Engine.new cfg) evs).1.ops (fun pid id hl => by
      obtain ⟨o, ho, hpid, _⟩ := b.tn pid id hl; exact ⟨o, ho, hpid⟩)⟩

/-- **No leak, every history.**  When every operation has completed (the operation table is empty) no packet
    identifier remains reserved — whatever mix of operations, acknowledgement orders, timeouts, validation failures
    after an id was bound, disconnect points, session outcomes and allocator wrap-arounds the history contains. -/
theorem nothing_reserved_when_all_complete (cfg : Config) (evs : List Event)
    (hdone : (runEvents (Engine.new cfg) evs).1.ops = []) :
    (runEvents (Engine.new cfg) evs).1.allocated = [] := by
  cases hal : (runEvents (Engine.new cfg) evs).1.allocated with
  | nil => rfl
  | cons x xs =>
    exfalso
    have hm : (runEvents (Engine.new cfg) evs).1.allocated.lookup x.1 = some x.2 := by
      rw [hal]; obtain ⟨a, b⟩ := x; simp [List.lookup]
    obtain ⟨o, ho, _⟩ := reserved_id_is_held cfg evs x.1 x.2 hm
    simp [hdone] at ho

/-- non-vacuity: the QoS 1 publish of the example above, acknowledged: the table is empty again and so is the reservation -/
example : let e := (runEvents (Engine.new {}) [.user 0 (.publish { qos := 1, topic := [97] } 7 none), .opened 1 100, .service 2 4096 0,
      .writeDone 3, .data 4 [0x20, 0x03, 0x00, 0x00, 0x00], .service 5 4096 0, .writeDone 6, .data 7 [0x40, 0x02, 0x00, 0x01]]).1
    e.ops.length = 0 ∧ e.allocated = [] := by
  decide +kernel

end GV.Props.C06
