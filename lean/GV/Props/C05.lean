/-
  Props/C05.lean — Inbound publishes are acked correctly; QoS 2 messages surface exactly once.
  About Model/Engine.lean: `handle_publish`, `handle_pubrel` (protocol.rs).
-/
import GV.Proofs.EngineBasics
namespace GV.Props.C05
open GV

theorem createOp_enqueue_high (e : Engine) (p : Packet) :
    let (e2, id) := e.createOp p none
    e2.enqueue id .high false = some { e2 with highQ := e2.highQ ++ [id] } :=
  enqueue_created e p none .high false

/-- the operation created to answer an inbound packet -/
def answerOf (e : Engine) (p : Packet) : Op := { id := e.nextOpId, packet := p, user := none }

/-- **QoS 0**: surfaced, nothing to acknowledge. -/
theorem qos0_surfaced (e : Engine) (p : Publish) (hs : stateBlocksAcks e.state = false) (hq : p.qos = 0) :
    e.handlePublish p = ({ e with outEvents := e.outEvents ++ [Packet.publish p] }, .ok) := by
  rw [handlePublish_eq, if_neg (by simp [hs]), if_pos hq]

/-- **QoS 1**: surfaced once, and exactly one PUBACK with the publish's identifier joins the back of the
    high-priority queue (so acknowledgements leave in arrival order). -/
theorem qos1_surfaced_and_acked (e : Engine) (p : Publish) (hs : stateBlocksAcks e.state = false) (hq : p.qos = 1) :
    let e' := (e.handlePublish p).1
    (e.handlePublish p).2 = .ok ∧ e'.outEvents = e.outEvents ++ [Packet.publish p] ∧
    e'.highQ = e.highQ ++ [e.nextOpId] ∧ e'.op? e.nextOpId = some (answerOf e (.puback { packetId := p.packetId })) ∧
    e'.inQos2 = e.inQos2 := by
  rw [handlePublish_eq, if_neg (by simp [hs]), if_neg (by omega), if_pos hq]
  exact ⟨rfl, rfl, rfl, lookup_mapInsert_self .., rfl⟩

/-- **QoS 2**: always answered with a PUBREC for the same identifier; surfaced only if the identifier is not
    already awaiting its PUBREL (a duplicate is acknowledged but not delivered again). -/
theorem qos2_acked_surfaced_once (e : Engine) (p : Publish) (hs : stateBlocksAcks e.state = false) (hq : p.qos = 2) :
    let e' := (e.handlePublish p).1
    (e.handlePublish p).2 = .ok ∧
    e'.highQ = e.highQ ++ [e.nextOpId] ∧ e'.op? e.nextOpId = some (answerOf e (.pubrec { packetId := p.packetId })) ∧
    e'.outEvents = (if e.inQos2.contains p.packetId then e.outEvents else e.outEvents ++ [Packet.publish p]) ∧
    e'.inQos2.contains p.packetId = true := by
  rw [handlePublish_eq, if_neg (by simp [hs]), if_neg (by omega), if_neg (by omega)]
  split
  · next hin => exact ⟨rfl, rfl, lookup_mapInsert_self .., rfl, hin⟩
  · exact ⟨rfl, rfl, lookup_mapInsert_self .., rfl,
      List.contains_iff_mem.mpr ((insertSorted_perm p.packetId e.inQos2).mem_iff.mpr (List.mem_cons_self ..))⟩

/-- **PUBREL**: answered with a PUBCOMP for the same identifier and the identifier is released, so that a
    later PUBLISH with it is a new message. -/
theorem pubrel_answered_and_released (e : Engine) (a : Ack) (hs : stateBlocksAcks e.state = false) :
    let e' := (e.handlePubrel a).1
    (e.handlePubrel a).2 = .ok ∧ e'.highQ = e.highQ ++ [e.nextOpId] ∧
    e'.op? e.nextOpId = some (answerOf e (.pubcomp { packetId := a.packetId })) ∧
    e'.inQos2.contains a.packetId = false ∧ e'.outEvents = e.outEvents := by
  rw [handlePubrel_eq, if_neg (by simp [hs])]
  exact ⟨rfl, rfl, lookup_mapInsert_self .., by show (e.inQos2.filter _).contains _ = false; simp, rfl⟩

/-- before the connection is established inbound application packets are a protocol error -/
theorem not_before_connack (e : Engine) (p : Publish) (hs : stateBlocksAcks e.state = true) :
    e.handlePublish p = (e, .err "ProtocolError") := by
  rw [handlePublish_eq, if_pos hs]

theorem sessionRequeueStage_inQos2 (e : Engine) : e.sessionRequeueStage.inQos2 = e.inQos2 :=
  foldl_preserves (fun en id => (en.unbind id).clearQos2 id) (fun en => en.inQos2 = e.inQos2)
    (fun en id h => by rw [clearQos2_inQos2, unbind_inQos2]; exact h) _ e rfl

/-- **A lost session forgets the QoS 2 receive state; a resumed one keeps it.** -/
theorem session_lost_forgets (e : Engine) : (e.applySessionPresent false).1.inQos2 = [] := by
  unfold Engine.applySessionPresent
  -- every verdict returns the engine the two stages left
  simp only [Bool.not_false, ↓reduceIte, apply_ite Prod.fst, ite_self]
  rw [sessionRequeueStage_inQos2]
  unfold Engine.sessionLostStage
  rfl

/-! ### order of the answers, for any run of inbound packets -/

/-- the answer an inbound packet is owed -/
def inboundAnswer : Packet → Option Packet
  | .publish p => if p.qos = 1 then some (.puback { packetId := p.packetId })
                  else if p.qos = 2 then some (.pubrec { packetId := p.packetId }) else none
  | .pubrel a => some (.pubcomp { packetId := a.packetId })
  | _ => none

def handleInbound (e : Engine) : Packet → Engine × Res
  | .publish p => e.handlePublish p
  | .pubrel a => e.handlePubrel a
  | _ => (e, .ok)

theorem withAnswer_spec (e : Engine) (a : Packet) :
    let e' := e.withAnswer a
    e'.highQ = e.highQ ++ [e.nextOpId] ∧ e'.nextOpId = e.nextOpId + 1 ∧ e'.state = e.state ∧
    (e'.op? e.nextOpId).map (·.packet) = some a ∧ (∀ id, id ≠ e.nextOpId → e'.op? id = e.op? id) :=
  ⟨rfl, rfl, rfl, congrArg (Option.map fun o : Op => o.packet) (lookup_mapInsert_self ..),
    fun _ hid => lookup_mapInsert_ne _ _ _ _ hid⟩

/-- one inbound packet that is owed an answer: the answer is a new operation at the back of the high-priority queue, and
    nothing else about the queue, the older operations or the connection state changes -/
theorem answer_joins_the_back (e : Engine) (p : Packet) (a : Packet) (hs : stateBlocksAcks e.state = false)
    (ha : inboundAnswer p = some a) :
    let e' := (handleInbound e p).1
    e'.highQ = e.highQ ++ [e.nextOpId] ∧ e'.nextOpId = e.nextOpId + 1 ∧ e'.state = e.state ∧
    (e'.op? e.nextOpId).map (·.packet) = some a ∧ (∀ id, id ≠ e.nextOpId → e'.op? id = e.op? id) := by
  cases p with
  | publish pb =>
    simp only [inboundAnswer, handleInbound] at ha ⊢
    split at ha
    · next h1 =>
      cases ha
      rw [handlePublish_eq, if_neg (by simp [hs]), if_neg (by omega), if_pos h1]
      exact withAnswer_spec _ _
    · split at ha
      · next h2 =>
        cases ha
        rw [handlePublish_eq, if_neg (by simp [hs]), if_neg (by omega), if_neg (by omega)]
        split <;> exact withAnswer_spec _ _
      · cases ha
  | pubrel ak => cases ha; simp only [handleInbound]; rw [handlePubrel_eq, if_neg (by simp [hs])]; exact withAnswer_spec _ _
  | _ => cases ha

/-- **Acknowledgements leave in the order the packets they answer arrived** - for any run of inbound QoS 1 / QoS 2 publishes
    and PUBRELs, of any length: the answers are new operations with consecutive numbers, they stand at the back of the
    high-priority queue in arrival order behind whatever stood there, the k-th of them is the answer the k-th packet is owed
    (PUBACK / PUBREC / PUBCOMP with its identifier), and the queue is served from its head (C10:
    `dequeue_takes_heads_in_priority_order`). -/
theorem answers_leave_in_arrival_order : ∀ (ps : List Packet) (e : Engine), stateBlocksAcks e.state = false →
    (∀ p ∈ ps, (inboundAnswer p).isSome = true) →
    let e' := ps.foldl (fun en p => (handleInbound en p).1) e
    e'.highQ = e.highQ ++ (List.range ps.length).map (e.nextOpId + ·) ∧ e'.nextOpId = e.nextOpId + ps.length ∧
    e'.state = e.state ∧
    (∀ i (h : i < ps.length), (e'.op? (e.nextOpId + i)).map (·.packet) = inboundAnswer ps[i]) ∧
    (∀ id, id < e.nextOpId → e'.op? id = e.op? id)
  | [], e, _, _ => ⟨(List.append_nil _).symm, rfl, rfl, nofun, fun _ _ => rfl⟩
  | p :: ps, e, hs, hall => by
    obtain ⟨a, ha⟩ := Option.isSome_iff_exists.mp (hall p List.mem_cons_self)
    obtain ⟨q1, n1, s1, o1, k1⟩ := answer_joins_the_back e p a hs ha
    obtain ⟨q2, n2, s2, o2, k2⟩ := answers_leave_in_arrival_order ps (handleInbound e p).1 (s1 ▸ hs)
      (fun x hx => hall x (List.mem_cons_of_mem _ hx))
    have hsucc : ∀ j, e.nextOpId + 1 + j = e.nextOpId + (j + 1) := fun j => by omega
    rw [n1] at q2 n2 o2 k2
    refine ⟨?_, n2.trans (hsucc _), s2.trans s1, ?_, fun id hid => ?_⟩
    · rw [List.foldl_cons, q2, q1, List.append_assoc, List.length_cons, List.range_succ_eq_map, List.map_cons, List.map_map]
      exact congrArg (e.highQ ++ e.nextOpId :: ·) (List.map_congr_left fun j _ => hsucc j)
    · intro i hi
      cases i with
      | zero => exact (congrArg (Option.map fun o : Op => o.packet) (k2 _ (Nat.lt_succ_self _))).trans (o1.trans ha.symm)
      | succ j => exact hsucc j ▸ o2 j (Nat.lt_of_succ_lt_succ hi)
    · exact (k2 id (Nat.lt_succ_of_lt hid)).trans (k1 id (Nat.ne_of_lt hid))

/-- non-vacuity: three packets, three answers, in order -/
example :
    let e : Engine := { (Engine.new {}) with state := .connected }
    let e' := [Packet.publish { topic := [97], qos := 2, packetId := 5 }, Packet.pubrel { packetId := 9 },
               Packet.publish { topic := [97], qos := 1, packetId := 6 }].foldl (fun en p => (handleInbound en p).1) e
    (e'.highQ.map (fun id => (e'.op? id).map (·.packet))) =
      [some (.pubrec { packetId := 5 }), some (.pubcomp { packetId := 9 }), some (.puback { packetId := 6 })] := by
  decide

end GV.Props.C05
