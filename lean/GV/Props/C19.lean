/-
  Props/C19.lean — Reconnect back-off doubles to the maximum; resets only after a stable connection.
  About Model/Client.lean `Backoff` (client/mod.rs: `ReconnectOptions::normalize`,
  `advance_reconnect_period`, `clamp_reconnect_period`, the reset in `transition_to_state`).
  Durations are nanoseconds; every accepted configuration value is at most `Duration::MAX`.
-/
import GV.Model.Client
namespace GV.Props.C19
open GV

/-- the effective (normalized) base and maximum -/
def effBase (base max : Nat) : Nat := if base > max then max else base
def effMax (base max : Nat) : Nat := Nat.max (if base > max then base else max) 1000000000

theorem ite_gt_eq_min (p m : Nat) : (if p > m then m else p) = min p m := by
  split
  · next h => exact (Nat.min_eq_right (Nat.le_of_lt h)).symm
  · next h => exact (Nat.min_eq_left (Nat.le_of_not_gt h)).symm

theorem effBase_le_effMax (base max : Nat) : effBase base max ≤ effMax base max := by
  unfold effBase effMax
  split
  · next h => exact Nat.le_trans (Nat.le_of_lt h) (Nat.le_max_left ..)
  · next h => exact Nat.le_trans (Nat.le_of_not_gt h) (Nat.le_max_left ..)

/-- **Normalisation.**  base > max is swapped, a maximum below one second is raised to one second, and the
    sequence starts from the effective base. -/
theorem create_normalizes (jitter : Bool) (base max stable : Nat) :
    let b := Backoff.create jitter base max stable
    b.base = effBase base max ∧ b.max = effMax base max ∧ b.next = effBase base max ∧ b.base ≤ b.max ∧ 1000000000 ≤ b.max := by
  have hmax : (Backoff.create jitter base max stable).max = effMax base max := by
    show (if _ < 1000000000 then 1000000000 else _) = Nat.max _ 1000000000
    generalize (if base > max then base else max) = m
    split
    · next h => exact (Nat.max_eq_right (Nat.le_of_lt h)).symm
    · next h => exact (Nat.max_eq_left (Nat.le_of_not_gt h)).symm
  exact ⟨rfl, hmax, rfl, hmax ▸ effBase_le_effMax base max, hmax ▸ Nat.le_max_right ..⟩

theorem create_max_le (jitter : Bool) {base max : Nat} (stable : Nat) (hb : base ≤ durationMaxNs) (hm : max ≤ durationMaxNs) :
    (Backoff.create jitter base max stable).max ≤ durationMaxNs := by
  rw [(create_normalizes jitter base max stable).2.1]
  refine Nat.max_le.mpr ⟨?_, by decide⟩
  split <;> assumption

/-- doubling a period `min a max` with saturation at `Duration::MAX`, then clamping, gives `min (2a) max` for any
    accepted maximum -/
theorem clamp_double (b : Backoff) {n : Nat} (a : Nat) (hm : b.max ≤ durationMaxNs) (hn : n = min a b.max) :
    b.clamp (satDouble n) = min (a * 2) b.max := by
  rw [Backoff.clamp, satDouble, ite_gt_eq_min, ite_gt_eq_min, Nat.min_assoc, Nat.min_eq_right hm, hn]
  rcases Nat.le_total a b.max with h | h
  · rw [Nat.min_eq_left h, Nat.mul_comm]
  · rw [Nat.min_eq_right h, Nat.min_eq_right (Nat.le_trans h (Nat.le_mul_of_pos_right a (by decide))),
      Nat.min_eq_right (Nat.le_mul_of_pos_left b.max (by decide))]

/-- iterate `advance` k times (random draws are irrelevant to the period) -/
def advanceN : Nat → Backoff → List Nat → Backoff
  | 0, b, _ => b
  | k + 1, b, rs => advanceN k (b.advance (rs.headD 0)).1 rs.tail

theorem advance_fst (b : Backoff) (r : Nat) : (b.advance r).1 = { b with next := b.clamp (satDouble b.next) } := rfl

/-- **Closed form.**  k consecutive waits change nothing but the period, from `min a max` to `min (a * 2^k) max`. -/
theorem next_after (k : Nat) : ∀ (b : Backoff) (rs : List Nat) (a : Nat), b.max ≤ durationMaxNs → b.next = min a b.max →
    advanceN k b rs = { b with next := min (a * 2 ^ k) b.max } := by
  induction k with
  | zero => intro b rs a _ h; rw [Nat.pow_zero, Nat.mul_one, ← h]; rfl
  | succ k ih =>
    intro b rs a hm hn
    rw [advanceN, advance_fst, clamp_double b a hm hn, ih _ rs.tail (a * 2), Nat.mul_assoc, ← Nat.pow_succ']
    · exact hm
    · rfl

/-- **The k-th consecutive wait without jitter is `min (base * 2^k) max`** (effective base and maximum),
    for every accepted configuration. -/
theorem kth_wait_no_jitter (base max stable : Nat) (k : Nat) (rs : List Nat)
    (hb : base ≤ durationMaxNs) (hm : max ≤ durationMaxNs) :
    ((advanceN k (Backoff.create false base max stable) rs).advance (rs.getD k 0)).2 =
      min (effBase base max * 2 ^ k) (effMax base max) := by
  obtain ⟨h1, h2, h3, h4, _⟩ := create_normalizes false base max stable
  rw [next_after k _ rs _ (create_max_le false stable hb hm) (Nat.min_eq_left (h3.trans h1.symm ▸ h4)).symm, h3, h2]
  rfl

theorem mod_period_lt (r : Nat) {p : Nat} (hp : p ≠ 0) : r % min p u64Max < p :=
  Nat.lt_of_lt_of_le (Nat.mod_lt r (Nat.lt_min.mpr ⟨Nat.pos_of_ne_zero hp, by decide⟩)) (Nat.min_le_left ..)

/-- **Jitter range.**  With uniform jitter the wait lies in `[0, period]`, the period being the same
    `min (base * 2^k) max`; in particular no wait ever exceeds the effective maximum. -/
theorem wait_within_period (b : Backoff) (r : Nat) : (b.advance r).2 ≤ b.next := by
  unfold Backoff.advance
  dsimp only
  split
  · exact Nat.le_refl _
  · split
    · exact Nat.zero_le _
    · next hp => exact Nat.le_of_lt (mod_period_lt r hp)

/-- with uniform jitter and a non-zero period the wait is strictly below the period (`gen_range(0..period)`) -/
theorem jitter_wait_below_period (b : Backoff) (r : Nat) (hj : b.jitter = true) (hp : b.next ≠ 0) : (b.advance r).2 < b.next := by
  unfold Backoff.advance
  dsimp only
  rw [hj, if_neg (by decide), if_neg hp]
  exact mod_period_lt r hp

theorem wait_never_exceeds_max (k : Nat) (b : Backoff) (rs : List Nat) (r : Nat) (hm : b.max ≤ durationMaxNs) (hn : b.next ≤ b.max) :
    ((advanceN k b rs).advance r).2 ≤ b.max := by
  rw [next_after k b rs _ hm (Nat.min_eq_left hn).symm]
  exact Nat.le_trans (wait_within_period _ r) (Nat.min_le_right ..)

/-- **Computing the wait never fails**: `advance` is total (no division by zero for a zero period, no
    overflow for periods near `Duration::MAX`) — it is a total function of the model, and the zero-period
    and saturation branches are the ones the implementation guards. -/
theorem zero_period_waits_zero (b : Backoff) (r : Nat) (h : b.next = 0) : (b.advance r).2 = 0 := by
  simp only [Backoff.advance, h]; split <;> simp

/-- **Reset only after a stable connection.**  Leaving a connection resets the sequence to the base period
    exactly when that connection had a successful CONNACK and stayed established longer than the stability
    period; otherwise the sequence continues. -/
theorem reset_iff_stable (b : Backoff) (lasted : Option Nat) :
    b.onConnectionEnd lasted = if (∃ d, lasted = some d ∧ d > b.stable) then { b with next := b.base } else b := by
  cases lasted with
  | none => simp [Backoff.onConnectionEnd]
  | some d =>
    simp only [Backoff.onConnectionEnd]
    by_cases h : d > b.stable <;> simp [h]

/-- non-vacuity: base 10 s > max 2 s: waits 2 s, 2 s (swapped and clamped); base 100 ms, max 1 s: 100, 200, 400, 800, 1000 -/
example : ((advanceN 3 (Backoff.create false 100000000 1000000000 0) []).advance 0).2 = 800000000 := by decide
example : ((advanceN 4 (Backoff.create false 100000000 1000000000 0) []).advance 0).2 = 1000000000 := by decide
example : ((advanceN 0 (Backoff.create false 10000000000 2000000000 0) []).advance 0).2 = 2000000000 := by decide

/-! ### whole histories of connection cycles

  One cycle = a connection (attempt) ends — `lasted` is the time it stayed established after a successful
  CONNACK, `none` if it never got one — and the client computes the wait before the next attempt.  A history
  is any list of cycles; nothing bounds its length or the pattern of stable / unstable connections. -/

/-- the waits the model computes over a history of cycles (`(lasted, random draw)` per cycle) -/
def waits : Backoff → List (Option Nat × Nat) → List Nat
  | _, [] => []
  | b, (l, r) :: t =>
    let b1 := b.onConnectionEnd l
    (b1.advance r).2 :: waits (b1.advance r).1 t

def isStable (stable : Nat) : Option Nat → Bool
  | some d => decide (d > stable)
  | none => false

/-- the specification: the wait is `min (base * 2^j) max`, `j` = number of cycles since the last stable
    connection (or since the start) -/
def specWaits (base max stable : Nat) : Nat → List (Option Nat × Nat) → List Nat
  | _, [] => []
  | j, (l, _) :: t =>
    let j' := if isStable stable l then 0 else j
    min (base * 2 ^ j') max :: specWaits base max stable (j' + 1) t

/-- pointwise `≤` of two lists of the same length -/
def AllLe : List Nat → List Nat → Prop
  | [], [] => True
  | a :: as, b :: bs => a ≤ b ∧ AllLe as bs
  | _, _ => False

theorem onConnectionEnd_eq (b : Backoff) (l : Option Nat) :
    b.onConnectionEnd l = { b with next := if isStable b.stable l then b.base else b.next } := by
  cases l with
  | none => rfl
  | some d => simp only [Backoff.onConnectionEnd, isStable, decide_eq_true_eq]; split <;> rfl

/-- one cycle, `j'` counting from the last stable connection: the wait is at most the period in use, exactly that period
    without jitter, and nothing but the period changes, which has doubled -/
theorem onConnectionEnd_advance (b : Backoff) (l : Option Nat) (r j : Nat) (hb : b.base ≤ b.max) (hm : b.max ≤ durationMaxNs)
    (hn : b.next = min (b.base * 2 ^ j) b.max) :
    let j' := if isStable b.stable l then 0 else j
    let p := min (b.base * 2 ^ j') b.max
    let out := (b.onConnectionEnd l).advance r
    out.2 ≤ p ∧ (b.jitter = false → out.2 = p) ∧ out.1 = { b with next := min (b.base * 2 ^ (j' + 1)) b.max } := by
  intro j' p
  have hp : (if isStable b.stable l then b.base else b.next) = p := by
    show _ = min (b.base * 2 ^ (if isStable b.stable l then 0 else j)) b.max
    split
    · rw [Nat.pow_zero, Nat.mul_one, Nat.min_eq_left hb]
    · exact hn
  rw [onConnectionEnd_eq, hp]
  refine ⟨wait_within_period { b with next := p } r, fun hj => ?_, ?_⟩
  · unfold Backoff.advance
    dsimp only
    rw [hj]; rfl
  · rw [advance_fst, clamp_double (b := { b with next := p }) _ hm rfl, Nat.mul_assoc, ← Nat.pow_succ]

/-- **Every history, no jitter.**  Over any sequence of connection cycles the waits are exactly
    `min (base * 2^j) max` with `j` counting the cycles since the last stable connection: the sequence doubles
    to the maximum, restarts from the base after a stable connection and only then. -/
theorem waits_eq_spec : ∀ (hist : List (Option Nat × Nat)) (b : Backoff) (j : Nat), b.jitter = false →
    b.base ≤ b.max → b.max ≤ durationMaxNs → b.next = min (b.base * 2 ^ j) b.max →
    waits b hist = specWaits b.base b.max b.stable j hist := by
  intro hist
  induction hist with
  | nil => intros; rfl
  | cons c t ih =>
    obtain ⟨l, r⟩ := c
    intro b j hj hb hm hn
    obtain ⟨_, hw, hb'⟩ := onConnectionEnd_advance b l r j hb hm hn
    simp only [waits, specWaits]
    rw [hb', hw hj, ih { b with next := min (b.base * 2 ^ ((if isStable b.stable l then 0 else j) + 1)) b.max } _ hj hb hm rfl]

/-- **Every history, with jitter.**  Each wait is at most the period the no-jitter sequence would use
    (hence never above the maximum), whatever the random draws. -/
theorem waits_le_spec : ∀ (hist : List (Option Nat × Nat)) (b : Backoff) (j : Nat),
    b.base ≤ b.max → b.max ≤ durationMaxNs → b.next = min (b.base * 2 ^ j) b.max →
    AllLe (waits b hist) (specWaits b.base b.max b.stable j hist) := by
  intro hist
  induction hist with
  | nil => intros; trivial
  | cons c t ih =>
    obtain ⟨l, r⟩ := c
    intro b j hb hm hn
    obtain ⟨hw, _, hb'⟩ := onConnectionEnd_advance b l r j hb hm hn
    simp only [waits, specWaits, hb']
    exact ⟨hw, ih _ _ hb hm rfl⟩

/-- the configured client starts every history in the hypotheses of the two theorems (j = 0) -/
theorem create_starts_history (jitter : Bool) (base max stable : Nat) (hb : base ≤ durationMaxNs) (hm : max ≤ durationMaxNs) :
    let b := Backoff.create jitter base max stable
    b.base ≤ b.max ∧ b.max ≤ durationMaxNs ∧ b.next = min (b.base * 2 ^ 0) b.max := by
  obtain ⟨h1, _, h3, h4, _⟩ := create_normalizes jitter base max stable
  exact ⟨h4, create_max_le jitter stable hb hm, by rw [Nat.pow_zero, Nat.mul_one, Nat.min_eq_left h4, h3, h1]⟩

/-- non-vacuity: base 1 s, max 8 s, stable 30 s; cycles: unstable ×4 (1,2,4,8 s), a 31 s connection (back to 1 s),
    a 30 s connection (not longer than the stability period: 2 s), never connected (4 s) -/
example : waits (Backoff.create false 1000000000 8000000000 30000000000)
    [(none, 0), (some 5, 0), (none, 0), (none, 0), (some 31000000000, 0), (some 30000000000, 0), (none, 0)] =
    [1000000000, 2000000000, 4000000000, 8000000000, 1000000000, 2000000000, 4000000000] := by decide

end GV.Props.C19
