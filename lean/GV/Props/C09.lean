/-
  Props/C09.lean — Receive-maximum and post-reconnect slow-start flow control are never exceeded.
  About Model/Engine.lean: `dequeue_operation`, `does_operation_pass_receive_maximum_flow_control`,
  `should_external_operations_be_slow_start_throttled` (protocol.rs).
-/
import GV.Props.C01
namespace GV.Props.C09
open GV

def isQos12Publish (e : Engine) (id : Nat) : Bool :=
  match (e.op? id).bind (fun o => publishQos o.packet) with
  | some q => q != 0
  | none => false

/-- a QoS 1/2 publish passes the check only while there is room below the Receive Maximum -/
theorem passes_qos12 (e : Engine) (x : Nat) (s : Settings) (hs : e.settings = some s)
    (hx : e.passesReceiveMaximum x = true) (hpx : isQos12Publish e x = true) : e.pendingPub.length < s.receiveMaximum := by
  simp only [Engine.passesReceiveMaximum, hs] at hx
  by_cases hge : e.pendingPub.length ≥ s.receiveMaximum
  · simp only [hge, ↓reduceIte] at hx
    simp only [isQos12Publish] at hpx
    cases hb : (e.op? x).bind (fun o => publishQos o.packet) with
    | none => simp [hb] at hpx
    | some q => simp [hb] at hx hpx; exact absurd hx hpx
  · omega

/-- **Receive maximum gates the queues.**  An operation taken from the resubmit or the user queue that is a
    QoS 1/2 publish is taken only while the number of unacknowledged publishes is below the server's Receive
    Maximum. -/
theorem dequeue_respects_receive_maximum (e : Engine) (id : Nat) (e' : Engine) (s : Settings)
    (hs : e.settings = some s) (hq : e.highQ = []) (h : e.dequeue true = (e', some id)) (hp : isQos12Publish e id = true) :
    e.pendingPub.length < s.receiveMaximum := by
  rcases dequeue_cases e true with ⟨hn, _⟩ | ⟨x, r, hx, _⟩ | ⟨x, r, _, _, _, hpass, heq⟩ | ⟨x, r, _, _, _, _, hpass, heq⟩
  · rw [h] at hn; cases hn
  · rw [hq] at hx; cases hx
  all_goals
    rw [heq] at h; cases h
    exact passes_qos12 e id s hs hpass hp

/-- **Slow start (one-at-a-time drain).**  While operations interrupted by the disconnection are unresolved
    (`slowStartCount ≠ 0`) and something already awaits an acknowledgement, nothing further is taken from the
    resubmit or user queues. -/
theorem slow_start_holds_back (e : Engine) (hq : e.highQ = [])
    (hth : e.slowStartThrottled = true) (hpend : e.hasPendingAck = true) : (e.dequeue true).2 = none := by
  simp only [Engine.dequeue, hq, hth, hpend, Bool.and_self, Bool.not_true, Bool.false_eq_true, ↓reduceIte, ite_self]

/-- the throttle is in force exactly when the policy is configured, the connection is established and
    interrupted operations remain -/
theorem throttle_condition (e : Engine) :
    e.slowStartThrottled = (e.cfg.drainOneAtATime && e.state == .connected && e.slowStartCount != 0) := rfl

/-- the count of interrupted operations is initialised at CONNACK to the operations that were in flight -/
theorem slow_start_initialised (e : Engine) (h : e.cfg.drainOneAtATime = true) :
    e.initSlowStart.slowStartCount = (e.ops.map (fun x => x.2.slowStart)).sum := by
  simp [Engine.initSlowStart, h]

/-- nothing is sent while a write is pending (one batch at a time) -/
theorem no_dequeue_while_write_pending (e : Engine) (all : Bool) (h : e.pendingWrite = true) : (e.dequeue all).2 = none := by
  simp [Engine.dequeue, h]

/-! ### every history -/

/-- the flow-control clause of the invariant, with the Receive Maximum read from the negotiated settings -/
theorem flow_of_big {e : Engine} (b : Big [] [] e.view) (hs : e.state = .connected) :
    ∃ s, e.settings = some s ∧ e.pendingPub.length ≤ s.receiveMaximum ∧
      ∀ id, e.current = some id → ∀ o, e.ops.lookup id = some o → isAckedPublish o.packet = true →
        id ∈ vals e.pendingPub ∨ e.pendingPub.length < s.receiveMaximum := by
  obtain ⟨rm, hrm, h⟩ := b.f hs
  obtain ⟨s, hset, rfl⟩ := Option.map_eq_some_iff.mp hrm
  exact ⟨s, hset, h⟩

/-- **Receive maximum is never exceeded.**  After any sequence of events, for any configuration: while connected, the
    number of publishes awaiting an acknowledgement is at most the Receive Maximum the server announced in this
    connection's CONNACK (65535 when it announced none). -/
theorem receive_maximum_never_exceeded (cfg : Config) (evs : List Event)
    (hs : (runEvents (Engine.new cfg) evs).1.state = .connected) :
    ∃ s, (runEvents (Engine.new cfg) evs).1.settings = some s ∧
      (runEvents (Engine.new cfg) evs).1.pendingPub.length ≤ s.receiveMaximum := by
  obtain ⟨s, hset, hlen, _⟩ := flow_of_big (C01.big_after cfg evs) hs
  exact ⟨s, hset, hlen⟩

/-- every entry of the pending-publish table is a distinct tracked QoS 1/2 publish carrying the id it is filed under: the
    table's length is the number of unacknowledged publishes -/
theorem pending_publish_entries (cfg : Config) (evs : List Event) (pid id : Nat)
    (h : (runEvents (Engine.new cfg) evs).1.pendingPub.lookup pid = some id) :
    ∃ o, (runEvents (Engine.new cfg) evs).1.ops.lookup id = some o ∧ o.packetId = some pid ∧ isAckedPublish o.packet = true :=
  (C01.big_after cfg evs).tp pid id h

/-- while a QoS 1/2 publish that is not yet in the table is being written, there is room for it -/
theorem room_for_the_publish_being_written (cfg : Config) (evs : List Event) (id : Nat) (o : Op)
    (hs : (runEvents (Engine.new cfg) evs).1.state = .connected) (hc : (runEvents (Engine.new cfg) evs).1.current = some id)
    (h : (runEvents (Engine.new cfg) evs).1.ops.lookup id = some o) (hk : isAckedPublish o.packet = true)
    (hn : id ∉ vals (runEvents (Engine.new cfg) evs).1.pendingPub) :
    ∃ s, (runEvents (Engine.new cfg) evs).1.settings = some s ∧ (runEvents (Engine.new cfg) evs).1.pendingPub.length < s.receiveMaximum := by
  obtain ⟨s, hset, _, hcur⟩ := flow_of_big (C01.big_after cfg evs) hs
  exact ⟨s, hset, (hcur id hc o h hk).resolve_left hn⟩

/-- non-vacuity: receive maximum 1 announced; two QoS 1 publishes submitted; after servicing only one is in flight -/
example : ((runEvents (Engine.new {}) [.user 0 (.publish { qos := 1, topic := [97] } 7 none), .user 0 (.publish { qos := 1, topic := [98] } 8 none),
      .opened 1 100, .service 2 4096 0, .writeDone 3, .data 4 [0x20, 0x06, 0x00, 0x00, 0x03, 0x21, 0x00, 0x01], .service 5 4096 0, .writeDone 6,
      .service 7 4096 0]).1.pendingPub.length, (runEvents (Engine.new {}) [.user 0 (.publish { qos := 1, topic := [97] } 7 none), .user 0 (.publish { qos := 1, topic := [98] } 8 none),
      .opened 1 100, .service 2 4096 0, .writeDone 3, .data 4 [0x20, 0x06, 0x00, 0x00, 0x03, 0x21, 0x00, 0x01], .service 5 4096 0, .writeDone 6,
      .service 7 4096 0]).1.userQ.length) = (1, 1) := by
  decide +kernel

/-- **The throttle is on exactly while an interrupted operation is unresolved - after any sequence of events**: with the
    one-at-a-time drain configured, a Connected engine's slow-start count is the number of marks carried by the operations it
    still tracks (a mark is put on every operation the disconnection interrupted, and leaves with the operation when it is
    resolved); so the count is zero if and only if none of them is left.  (Clause `slow` of the engine invariant.) -/
theorem slow_start_count_is_the_marks_left (cfg : Config) (evs : List Event)
    (hd : (runEvents (Engine.new cfg) evs).1.cfg.drainOneAtATime = true)
    (hc : (runEvents (Engine.new cfg) evs).1.state = .connected) :
    (runEvents (Engine.new cfg) evs).1.slowStartCount =
      ((runEvents (Engine.new cfg) evs).1.ops.map (·.2.slowStart)).sum :=
  (inv_after cfg evs).1.slow hd (by simp [Engine.core, hc])

theorem throttle_off_iff_no_mark_left (cfg : Config) (evs : List Event)
    (hd : (runEvents (Engine.new cfg) evs).1.cfg.drainOneAtATime = true)
    (hc : (runEvents (Engine.new cfg) evs).1.state = .connected) :
    (runEvents (Engine.new cfg) evs).1.slowStartThrottled = false ↔
      ∀ x ∈ (runEvents (Engine.new cfg) evs).1.ops, x.2.slowStart = 0 := by
  unfold Engine.slowStartThrottled
  rw [hd, hc, slow_start_count_is_the_marks_left cfg evs hd hc]
  simp only [Bool.true_and, beq_self_eq_true, bne_eq_false_iff_eq, List.sum_eq_zero_iff_forall_eq_nat, List.forall_mem_map]

end GV.Props.C09
