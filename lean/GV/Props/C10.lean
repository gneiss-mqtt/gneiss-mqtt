/-
  Props/C10.lean — Operations go out in submission order; retransmissions first after reconnect.
  About Model/Engine.lean: `create_operation` (ids increase with submission), `dequeue_operation`
  (queue priority), `sort_operation_deque` at CONNACK (protocol.rs).
-/
import GV.Props.C01
namespace GV.Props.C10
open GV

/-- **Operation ids are handed out in submission order**: each new operation gets an id strictly above every
    earlier one. -/
theorem ids_increase (e : Engine) (p : Packet) (u : Option (Nat × Option Nat)) :
    (e.createOp p u).2 = e.nextOpId ∧ (e.createOp p u).1.nextOpId = e.nextOpId + 1 := by
  simp [Engine.createOp]

/-- **The CONNACK-time sort puts a queue into submission (id) order without losing or inventing entries.** -/
theorem sort_is_ordered_permutation (q : List Nat) : sortedNat (sortIds q) = true ∧ (sortIds q).Perm q :=
  ⟨sortIds_sorted q, sortIds_perm q⟩

/-- **Queue priority**: the next operation to be sent is the head of the high-priority queue (acks, PUBREL,
    CONNECT, PINGREQ, DISCONNECT) if any; otherwise — only on an established connection — the head of the
    resubmit queue (in-flight publishes of a resumed session), and only when that queue is empty the head of the
    user queue.  Nothing is taken from the middle of a queue, so nothing overtakes an earlier queued operation. -/
theorem dequeue_takes_heads_in_priority_order (e : Engine) (all : Bool) (id : Nat) (e' : Engine)
    (h : e.dequeue all = (e', some id)) :
    (e.highQ = id :: e'.highQ ∧ e'.resubQ = e.resubQ ∧ e'.userQ = e.userQ) ∨
    (e.highQ = [] ∧ all = true ∧ e.resubQ = id :: e'.resubQ ∧ e'.userQ = e.userQ) ∨
    (e.highQ = [] ∧ all = true ∧ e.resubQ = [] ∧ e.userQ = id :: e'.userQ) := by
  rcases dequeue_cases e all with ⟨hn, _⟩ | ⟨x, r, hq, heq⟩ | ⟨x, r, ha, hq, hr, _, heq⟩ | ⟨x, r, ha, hq, hr, hu, _, heq⟩
  · rw [h] at hn; cases hn
  all_goals
    rw [heq, Prod.mk.injEq, Option.some.injEq] at h
    obtain ⟨rfl, rfl⟩ := h
  · exact .inl ⟨hq, rfl, rfl⟩
  · exact .inr (.inl ⟨hq, ha, hr, rfl⟩)
  · exact .inr (.inr ⟨hq, ha, hr, hu⟩)

/-- a dequeue that yields nothing leaves every queue untouched -/
theorem dequeue_none_changes_nothing (e : Engine) (all : Bool) (e' : Engine) (h : e.dequeue all = (e', none)) : e' = e :=
  (congrArg Prod.fst h).symm.trans (dequeue_none (congrArg Prod.snd h))

/-- new submissions join the back of the user queue (`handle_user_event`), see C15 `preserved_is_queued`;
    before CONNACK only the high-priority queue is served -/
theorem handshake_serves_only_high_priority (e : Engine) (id : Nat) (e' : Engine) (h : e.dequeue false = (e', some id)) :
    e.highQ = id :: e'.highQ := by
  rcases dequeue_takes_heads_in_priority_order e false id e' h with h1 | h1 | h1
  · exact h1.1
  · simp at h1
  · simp at h1

/-- non-vacuity -/
example : sortIds [7, 3, 9, 1] = [1, 3, 7, 9] := by decide

/-! ### every history -/

/-- **Submission order.**  After any sequence of events, for any configuration: while connected, the resubmit queue
    (retransmissions) and the user queue are both in ascending operation-id order — the order of submission — and
    `dequeue_takes_heads_in_priority_order` takes operations from their heads, the resubmit queue first.  So
    operations leave each queue in submission order, retransmissions before new traffic. -/
theorem queues_in_submission_order (cfg : Config) (evs : List Event)
    (hs : (runEvents (Engine.new cfg) evs).1.state = .connected) :
    sortedNat (runEvents (Engine.new cfg) evs).1.resubQ = true ∧ sortedNat (runEvents (Engine.new cfg) evs).1.userQ = true :=
  let h := (inv_after cfg evs).2.2.2 hs
  ⟨h.2, h.1⟩

/-- every queued operation id was handed out earlier: ids are handed out in increasing order, so a later submission has
    a larger id than anything queued -/
theorem queued_ids_are_older (cfg : Config) (evs : List Event) :
    ∀ id ∈ (runEvents (Engine.new cfg) evs).1.userQ ++ (runEvents (Engine.new cfg) evs).1.resubQ ++
           (runEvents (Engine.new cfg) evs).1.highQ ++ (runEvents (Engine.new cfg) evs).1.pendingWC,
      id < (runEvents (Engine.new cfg) evs).1.nextOpId :=
  (C01.big_after cfg evs).qb.1

/-- non-vacuity: three operations submitted offline are queued in submission order once connected -/
example : (runEvents (Engine.new {}) [.user 0 (.publish { qos := 1, topic := [97] } 7 none), .user 0 (.publish { qos := 0, topic := [98] } 8 none),
      .user 0 (.subscribe { subscriptions := [{ topicFilter := [97] }] } 9 none),
      .opened 1 100, .service 2 4096 0, .writeDone 3, .data 4 [0x20, 0x03, 0x00, 0x00, 0x00]]).1.userQ = [1, 2, 3] := by
  decide +kernel

/-- **No operation waits twice.**  After any history the user queue and the resubmit queue together hold no operation
    twice, and nothing they hold is also in the high-priority queue, written-but-unflushed or awaiting its acknowledgement:
    an operation cannot be transmitted a second time on a connection by being dequeued again. -/
theorem queues_never_repeat (cfg : Config) (evs : List Event) :
    ((runEvents (Engine.new cfg) evs).1.userQ ++ (runEvents (Engine.new cfg) evs).1.resubQ).Nodup ∧
    ∀ id ∈ (runEvents (Engine.new cfg) evs).1.userQ ++ (runEvents (Engine.new cfg) evs).1.resubQ,
      id ∉ (runEvents (Engine.new cfg) evs).1.highQ ∧ id ∉ (runEvents (Engine.new cfg) evs).1.pendingWC ∧
      id ∉ vals (runEvents (Engine.new cfg) evs).1.pendingPub ∧ id ∉ vals (runEvents (Engine.new cfg) evs).1.pendingNonPub :=
  let x := C01.extra_after cfg evs
  ⟨x.x5.1, fun id hi => ⟨x.x5.2 id hi, (x.x2 id hi).1, (x.x2 id hi).2.1, (x.x2 id hi).2.2⟩⟩

end GV.Props.C10
