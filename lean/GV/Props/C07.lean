/-
  Props/C07.lean — One faithful CONNECT first, nothing before CONNACK, nothing after DISCONNECT.
  About Model/Engine.lean: `handle_network_event_connection_opened`, `create_connect`, `handle_connack`,
  `build_negotiated_settings`, the state gate of `service_queue_aux` (protocol.rs).
-/
import GV.Proofs.EngineWFStep
namespace GV.Props.C07
open GV

/-- **Opening a connection queues exactly one CONNECT at the very front** and arms the CONNACK deadline. -/
theorem opened_queues_connect_first (e : Engine) (deadline : Nat) (h : e.state = .disconnected) :
    let e' := (e.handleOpened deadline).1
    (e.handleOpened deadline).2 = .ok ∧ e'.state = .pendingConnack ∧ e'.highQ = e.nextOpId :: e.highQ ∧
    (e'.op? e.nextOpId).map (·.packet) = some e.createConnect ∧ e'.connackDeadline = some deadline ∧
    e'.current = none ∧ e'.pendingWrite = false := by
  simp [Engine.handleOpened, h, Engine.createOp, Engine.enqueue, Engine.op?, lookup_mapInsert_self]
  rfl

/-- a second "connection opened" without a close in between is an internal error and halts the engine -/
theorem opened_twice_is_error (e : Engine) (deadline : Nat) (h : e.state ≠ .disconnected) :
    (e.handleOpened deadline).2 = .err "InternalStateError" ∧ (e.handleOpened deadline).1.state = .halted := by
  have : (e.state != .disconnected) = true := by simp [h]
  rw [handleOpened_eq, if_pos this]
  exact ⟨rfl, rfl⟩

/-- **The CONNECT reflects the configured options.**  Clean start follows the rejoin policy and the history. -/
theorem connect_reflects_options (o : ConnectOpts) (prev : Bool) :
    let c := o.toPacket prev
    c.keepAlive = o.keepAlive.getD 0 ∧ c.clientId = o.clientId ∧ c.username = o.username ∧ c.password = o.password ∧
    c.sessionExpiry = o.sessionExpiry ∧ c.requestResponseInfo = o.requestResponseInfo ∧ c.requestProblemInfo = o.requestProblemInfo ∧
    c.receiveMaximum = o.receiveMaximum ∧ c.topicAliasMaximum = o.topicAliasMaximum ∧ c.maximumPacketSize = o.maximumPacketSize ∧
    c.willDelay = o.willDelay ∧ c.will = o.will ∧ c.userProps = o.userProps ∧
    c.cleanStart = (match o.rejoin with | .postSuccess => !prev | .always => false | .never => true) := by
  simp only [ConnectOpts.toPacket]
  cases o.rejoin <;> simp

/-- the CONNECT the engine builds is the options' CONNECT with the client id completed; only the clean-start bit may be raised -/
theorem createConnect_shape (e : Engine) :
    ∃ c, e.createConnect = .connect c ∧ c.clientId = e.createConnectBase.clientId ∧
      (c = e.createConnectBase ∨ c = { e.createConnectBase with cleanStart := true }) := by
  unfold Engine.createConnect
  simp only []
  split
  · exact ⟨_, rfl, rfl, Or.inr rfl⟩
  · exact ⟨_, rfl, rfl, Or.inl rfl⟩

/-- **A server-assigned client id is reused** on later connections when the user configured none - or the empty string,
    which asks the server for an assigned id just the same. -/
theorem assigned_client_id_reused (e : Engine) (s : Settings) (hs : e.settings = some s)
    (hc : e.cfg.connect.clientId = none ∨ e.cfg.connect.clientId = some []) :
    ∃ c, e.createConnect = .connect c ∧ c.clientId = some s.clientId := by
  obtain ⟨c, h1, h2, _⟩ := createConnect_shape e
  refine ⟨c, h1, ?_⟩
  rw [h2]
  rcases hc with hc | hc <;> simp [Engine.createConnectBase, ConnectOpts.toPacket, hc, hs]

theorem configured_client_id_kept (e : Engine) (cid : Bytes) (hc : e.cfg.connect.clientId = some cid) (hne : cid ≠ []) :
    ∃ c, e.createConnect = .connect c ∧ c.clientId = some cid := by
  obtain ⟨c, h1, h2, _⟩ := createConnect_shape e
  refine ⟨c, h1, ?_⟩
  rw [h2]
  have : (cid.isEmpty) = false := List.isEmpty_eq_false_iff.mpr hne
  simp only [Engine.createConnectBase, ConnectOpts.toPacket, hc, Option.getD_some, this]

/-- **Clean start is chosen by the rejoin policy and the connection history** - except that a 3.1.1 CONNECT with a
    zero-byte client identifier always asks for a clean session ([MQTT-3.1.3-7]; there is no session a server could resume
    for a client it has to name itself). -/
theorem clean_start_by_policy (e : Engine) :
    ∃ c, e.createConnect = .connect c ∧
      c.cleanStart = ((e.cfg.version == .v311 && (c.clientId.getD []).isEmpty) ||
        (match e.cfg.connect.rejoin with | .postSuccess => !e.hasConnected | .always => false | .never => true)) := by
  have hb : e.createConnectBase.cleanStart =
      (match e.cfg.connect.rejoin with | .postSuccess => !e.hasConnected | .always => false | .never => true) := by
    unfold Engine.createConnectBase
    simp only []
    split <;> simp only [ConnectOpts.toPacket] <;> cases e.cfg.connect.rejoin <;> rfl
  unfold Engine.createConnect
  simp only []
  split
  · rename_i h
    exact ⟨_, rfl, by simp only [h]; rfl⟩
  · rename_i h
    refine ⟨_, rfl, ?_⟩
    rw [hb]
    cases hx : (e.cfg.version == .v311 && (e.createConnectBase.clientId.getD []).isEmpty)
    · rfl
    · exact absurd hx h

/-- **A 3.1.1 CONNECT never pairs a zero-byte client identifier with CleanSession = 0** (what a conformant server must
    refuse with return code 2) -/
theorem connect311_empty_client_id_is_clean (e : Engine) (c : Connect) (hv : e.cfg.version = .v311)
    (hc : e.createConnect = .connect c) (hcid : c.clientId.getD [] = []) : c.cleanStart = true := by
  obtain ⟨c', h1, h2⟩ := clean_start_by_policy e
  rw [hc] at h1
  cases h1
  rw [h2, hv, hcid]
  rfl

/-- **In MQTT 3.1.1 mode a CONNECT with a password and no user name never passes last-chance validation**
    ([MQTT-3.1.2-22]; MQTT 5 allows it). -/
theorem connect311_password_without_username_is_refused (e4 : Engine) (c : Connect) (r : Resolution)
    (hv : e4.cfg.version = .v311) (hp : c.password.isSome = true) (hu : c.username = none) :
    ∃ x, e4.lastChance (.connect c) r = .error x := by
  unfold Engine.lastChance
  split
  · exact ⟨_, rfl⟩
  · simp [validateForVersion, hv, hp, hu, okIf]
    exact ⟨_, rfl⟩

/-- **A CONNECT that fails last-chance validation fails the connection attempt**: the service call returns an error (the
    engine halts), instead of leaving a handshake without a CONNECT in which an unsolicited CONNACK would be taken for the
    answer. -/
theorem rejected_connect_fails_the_attempt (e4 : Engine) (id : Nat) (r : Resolution) (x : VErr)
    (hc : isConnectOp e4 id = true) : ∃ e5 k, e4.rejectCurrent id r x = .ret e5 (.err k) ∨ ∃ s, e4.rejectCurrent id r x = .ret e5 (.panic s) := by
  unfold Engine.rejectCurrent
  dsimp only
  generalize Engine.completeFailure _ id x.name = z
  obtain ⟨e5, r5⟩ := z
  dsimp only
  cases r5 with
  | ok => exact ⟨e5, _, .inl (by rw [if_neg (by decide), if_pos hc])⟩
  | err k => exact ⟨e5, k, .inl (if_pos rfl)⟩
  | panic s => exact ⟨e5, "", .inr ⟨s, if_pos rfl⟩⟩

/-- **Nothing but the high-priority queue is served before CONNACK**: in the handshake the queue service never
    takes from the user or resubmit queue. -/
theorem handshake_sends_only_high_priority (e : Engine) (hq : e.highQ = []) : (e.dequeue false).2 = none := by
  simp only [Engine.dequeue, hq, Bool.not_false, ↓reduceIte, ite_self]

/-- **After a DISCONNECT has been written (state PendingDisconnect) or in any state but PendingConnack /
    Connected the queue service emits nothing.** -/
theorem nothing_sent_outside_connection (e : Engine) (all : Bool) (cap fuel : Nat)
    (h : e.state ≠ .pendingConnack ∧ e.state ≠ .connected) :
    Engine.serviceQueueAux all cap fuel e = (e, .ok) := by
  cases fuel with
  | zero => rfl
  | succ f =>
    have : (e.state == .pendingConnack || e.state == .connected) = false := by simp [h.1, h.2]
    simp [Engine.serviceQueueAux, this]

/-- writing the DISCONNECT moves the engine to PendingDisconnect -/
theorem disconnect_written_ends_sending (e : Engine) (id : Nat) (o : Op) (d : Disconnect)
    (hc : e.current = some id) (ho : e.op? id = some o) (hp : o.packet = .disconnect d) :
    ∃ e', e.onFullyWritten = some e' ∧ e'.state = .pendingDisconnect := by
  obtain ⟨ts, h3⟩ := startAckTimeout_shape ((e.fileWritten id o).setOp { o with pingBase := some e.now }) id
  have hf : e.fileWritten id o = { e with state := .pendingDisconnect, pendingWC := e.pendingWC ++ [id] } := by
    unfold Engine.fileWritten; rw [hp]
  have harm : ∀ en : Engine, en.armPingDeadline o = en := by
    intro en; unfold Engine.armPingDeadline; rw [hp]
  rw [onFullyWritten_eq e hc ho, h3, harm, hf]
  exact ⟨_, rfl, rfl⟩

/-- **A failing CONNACK is a connection error**, reported to the application, and the engine does not become connected. -/
theorem failing_connack_is_error (e : Engine) (c : Connack) (hs : e.state = .pendingConnack) (hrc : c.reasonCode ≠ 0) :
    (e.handleConnack c).2 = .err "ConnectionEstablishmentFailure" ∧ (e.handleConnack c).1.state = .pendingConnack := by
  simp [Engine.handleConnack, hs, hrc]

/-- **A CONNACK in any state other than PendingConnack (repeated, unsolicited) is a protocol error.** -/
theorem unsolicited_connack_is_error (e : Engine) (c : Connack) (hs : e.state ≠ .pendingConnack) :
    e.handleConnack c = (e, .err "ProtocolError") := by
  have : (e.state != .pendingConnack) = true := by simp [hs]
  simp [Engine.handleConnack, this]

/-- **Data arriving before the CONNECT has completely left the client is a protocol error** (CONNACK before CONNECT):
    while the CONNECT is still queued, and also while it is only partially encoded (the current operation). -/
theorem data_before_connect_is_error (e : Engine) (bs : Bytes) (hs : e.state = .pendingConnack)
    (hq : e.highQ.any (isConnectOp e) = true ∨ ∃ id, e.current = some id ∧ isConnectOp e id = true) :
    (e.handleData bs).2 = .err "ProtocolError" ∧ (e.handleData bs).1.state = .halted := by
  have hu : e.connectUnsent = true := by
    unfold Engine.connectUnsent
    rcases hq with hq | ⟨id, hc, hi⟩
    · simp [hq]
    · simp [hc, hi]
  simp [Engine.handleData, hs, hu]

/-- **No CONNACK by the deadline is a connection-establishment failure.** -/
theorem connack_timeout (e : Engine) (cap prefill d : Nat) (hs : e.state = .pendingConnack) (hd : e.connackDeadline = some d)
    (ht : e.now ≥ d) : (e.service cap prefill).2 = .err "ConnectionEstablishmentFailure" ∧ (e.service cap prefill).1.state = .halted := by
  simp [Engine.service, Engine.serviceCore, hs, hd, ht]

/-- **Negotiated settings are the CONNACK's values, completed with the CONNECT's values or the
    specification's defaults** - with one exception, stated as it is: for an absent Maximum Packet Size the code takes
    268,435,455, five bytes below the largest MQTT packet (1 + 4 + 268,435,455 bytes), which is what "no limit" would mean.
    The crate's own tests pin that value, so it is recorded as known finding D50 rather than repaired. -/
theorem settings_are_connack_values (e : Engine) (c : Connack) :
    let s := e.buildSettings c
    s.maximumQos = c.maximumQos.getD 2 ∧ s.receiveMaximum = c.receiveMaximum.getD 65535 ∧
    s.maximumPacketSize = c.maximumPacketSize.getD 268435455 ∧ s.topicAliasMaximum = c.topicAliasMaximum.getD 0 ∧
    s.retainAvailable = c.retainAvailable.getD true ∧ s.wildcardSubsAvailable = c.wildcardSubsAvailable.getD true ∧
    s.subIdsAvailable = c.subIdsAvailable.getD true ∧ s.sharedSubsAvailable = c.sharedSubsAvailable.getD true ∧
    s.sessionExpiry = c.sessionExpiry.getD (e.cfg.connect.sessionExpiry.getD 0) ∧
    s.serverKeepAlive = c.serverKeepAlive.getD (e.cfg.connect.keepAlive.getD 0) ∧ s.rejoinedSession = c.sessionPresent := by
  simp [Engine.buildSettings, maxVli]

/-! ### every history -/

/-- **Nothing but the CONNECT before the CONNACK.**  After any sequence of events, for any configuration: while the
    handshake is pending, whatever is queued with high priority, being written or written-but-unflushed is the
    CONNECT operation, no acknowledgement is awaited and no ack timeout is armed — user operations wait in the
    user / resubmit queues, which the handshake service (`handshake_serves_only_high_priority`) never touches. -/
theorem handshake_only_connect (cfg : Config) (evs : List Event)
    (hs : (runEvents (Engine.new cfg) evs).1.state = .pendingConnack) :
    (∀ id ∈ (runEvents (Engine.new cfg) evs).1.highQ ++ (runEvents (Engine.new cfg) evs).1.pendingWC,
       ∀ o, (runEvents (Engine.new cfg) evs).1.ops.lookup id = some o → isConnectPacket o.packet = true) ∧
    (∀ id, (runEvents (Engine.new cfg) evs).1.current = some id →
       ∀ o, (runEvents (Engine.new cfg) evs).1.ops.lookup id = some o → isConnectPacket o.packet = true) ∧
    (runEvents (Engine.new cfg) evs).1.pendingPub = [] ∧ (runEvents (Engine.new cfg) evs).1.pendingNonPub = [] ∧
    (runEvents (Engine.new cfg) evs).1.timeouts = [] := by
  obtain ⟨a, b, c, d, e⟩ := (inv_after cfg evs).2.1.h1 hs
  exact ⟨a, b, c, d, List.isEmpty_iff.mp e⟩

/-- **A closed connection leaves nothing in flight.**  After any history: while Disconnected there is no current
    operation, nothing queued with high priority (no stale PUBREL, ack or DISCONNECT can be written on the next
    connection before its CONNECT), no pending-ack entry, nothing unflushed and no ack timeout. -/
theorem disconnected_is_clean (cfg : Config) (evs : List Event)
    (hs : (runEvents (Engine.new cfg) evs).1.state = .disconnected) :
    (runEvents (Engine.new cfg) evs).1.current = none ∧ (runEvents (Engine.new cfg) evs).1.highQ = [] ∧
    (runEvents (Engine.new cfg) evs).1.pendingPub = [] ∧ (runEvents (Engine.new cfg) evs).1.pendingNonPub = [] ∧
    (runEvents (Engine.new cfg) evs).1.pendingWC = [] ∧ (runEvents (Engine.new cfg) evs).1.timeouts = [] := by
  obtain ⟨a, b, c, d, e, f⟩ := (inv_after cfg evs).2.2.1 hs
  exact ⟨a, b, c, d, e, List.isEmpty_iff.mp f⟩

/-- non-vacuity: a handshake in progress with a user operation waiting -/
example : ((runEvents (Engine.new {}) [.user 0 (.publish { qos := 1, topic := [97] } 7 none), .opened 1 100]).1.state,
    (runEvents (Engine.new {}) [.user 0 (.publish { qos := 1, topic := [97] } 7 none), .opened 1 100]).1.highQ,
    (runEvents (Engine.new {}) [.user 0 (.publish { qos := 1, topic := [97] } 7 none), .opened 1 100]).1.userQ) = (.pendingConnack, [2], [1]) := by
  decide +kernel

end GV.Props.C07
