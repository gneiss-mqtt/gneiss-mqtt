/-
  Props/C17.lean — Topic aliases never make either side reconstruct a wrong topic.
  Resolver-level theorems (alias.rs): the inbound resolver is the reference client table; the manual
  outbound resolver's table is exactly the table a conformant server builds from what is sent.
-/
import GV.Model.Alias
import GV.Proofs.AList
import GV.Proofs.Lru
import GV.Proofs.AliasFill
namespace GV.Props.C17
open GV

/-! ### inbound -/

/-- A PUBLISH without an alias is surfaced with its own topic and binds nothing. -/
theorem inbound_no_alias (r : InResolver) (t : Bytes) : r.resolve none t = some (r, t) := rfl

/-- An alias-only PUBLISH is surfaced with exactly the topic bound to that alias on this
    connection, and fails (never an empty or stale topic) when there is no binding. -/
theorem inbound_alias_only (r : InResolver) (a : Nat) :
    r.resolve (some a) [] = (r.table.lookup a).map (fun t => (r, t)) := by
  unfold InResolver.resolve
  cases h : r.table.lookup a <;> simp [h]

/-- Alias 0 and aliases above the client's Topic Alias Maximum are rejected. -/
theorem inbound_out_of_range (r : InResolver) (a : Nat) (t : Bytes) (ht : t ≠ []) (h : a = 0 ∨ a > r.maxAlias) :
    r.resolve (some a) t = none := by
  unfold InResolver.resolve
  have : t.isEmpty = false := List.isEmpty_eq_false_iff.mpr ht
  simp only [this]
  rcases h with h | h <;> simp [h]

/-- A PUBLISH with topic and in-range alias is surfaced with its topic; afterwards the alias maps to
    that topic and every other alias is unchanged (the latest binding wins). -/
theorem inbound_bind (r : InResolver) (a : Nat) (t : Bytes) (ht : t ≠ []) (h0 : a ≠ 0) (hm : a ≤ r.maxAlias) :
    ∃ r', r.resolve (some a) t = some (r', t) ∧ r'.maxAlias = r.maxAlias ∧
      ∀ b, r'.table.lookup b = if b = a then some t else r.table.lookup b := by
  unfold InResolver.resolve
  have : t.isEmpty = false := List.isEmpty_eq_false_iff.mpr ht
  have h2 : (decide (a = 0) || decide (a > r.maxAlias)) = false := by simp; omega
  simp only [this, Bool.false_eq_true, ↓reduceIte, h2]
  refine ⟨{ r with table := (a, t) :: r.table.filter (fun e => e.1 != a) }, rfl, rfl, ?_⟩
  intro b
  exact lookup_insert r.table a b t

/-- A new connection forgets every binding. -/
theorem inbound_reset_forgets (r : InResolver) (a : Nat) : (r.reset).resolve (some a) [] = none := by
  simp [InResolver.reset, InResolver.resolve]

/-! ### manual outbound resolver vs the server's table -/

/-- what a conformant server does with the (topic, alias) pair of a PUBLISH it receives -/
def serverApply (tbl : List (Nat × Bytes)) (res : Resolution) (topic : Bytes) : List (Nat × Bytes) :=
  match res.alias with
  | some a => if res.skipTopic then tbl else (a, topic) :: tbl.filter (fun e => e.1 != a)
  | none => tbl

/-- the topic the server attributes to that PUBLISH -/
def serverTopic (tbl : List (Nat × Bytes)) (res : Resolution) (topic : Bytes) : Option Bytes :=
  if res.skipTopic then (match res.alias with | some a => tbl.lookup a | none => none) else some topic

/-- Manual resolver: if its table equals the server's, then after any resolution (i) the server
    reconstructs the application's topic, (ii) the alias sent is in 1..max-1, (iii) the tables are
    still equal.  By induction this holds for every sequence of publishes on a connection. -/
theorem manual_step (r : OutResolver) (hk : r.kind = .manual) (alias : Option Nat) (topic : Bytes) :
    let (r', res) := r.resolve alias topic
    serverTopic r.table res topic = some topic ∧
    (∀ a, res.alias = some a → 1 ≤ a ∧ a < r.maxAlias ∨ r.table.lookup a = some topic) ∧
    r'.table = serverApply r.table res topic ∧ r'.kind = .manual ∧ r'.maxAlias = r.maxAlias := by
  unfold OutResolver.resolve
  rw [hk]
  cases alias with
  | none => exact ⟨rfl, fun _ h => (nomatch h), rfl, hk, rfl⟩
  | some a =>
    simp only []
    split
    · rename_i h1
      exact ⟨eq_of_beq h1, fun b hb => .inr (Option.some.inj hb ▸ eq_of_beq h1), rfl, hk, rfl⟩
    · split
      · rename_i h2
        rw [Bool.and_eq_true, decide_eq_true_eq, decide_eq_true_eq] at h2
        exact ⟨rfl, fun b hb => .inl (Option.some.inj hb ▸ h2), rfl, rfl, rfl⟩
      · exact ⟨rfl, fun _ h => (nomatch h), rfl, hk, rfl⟩

/-- Resetting for a new connection empties the manual table (the server's table starts empty too). -/
theorem manual_reset (r : OutResolver) (hk : r.kind = .manual) (max : Nat) :
    (r.reset max).table = [] ∧ (r.reset max).maxAlias = max := by
  simp [OutResolver.reset, hk]

/-- The null resolver never uses an alias. -/
theorem null_never_aliases (r : OutResolver) (hk : r.kind = .null) (alias : Option Nat) (topic : Bytes) :
    (r.resolve alias topic).2 = {} := by
  simp [OutResolver.resolve, hk]

/-- Non-vacuity: bind alias 2 to "a", reuse it, then rebind. -/
example :
    let r0 := (OutResolver.new .manual).reset 5
    let (r1, x1) := r0.resolve (some 2) [97]
    let (r2, x2) := r1.resolve (some 2) [97]
    let (_, x3) := r2.resolve (some 2) [98]
    (x1, x2, x3) = ({ skipTopic := false, alias := some 2 }, { skipTopic := true, alias := some 2 },
                    { skipTopic := false, alias := some 2 }) := by
  decide

/-! ### LRU outbound resolver: a whole connection -/

/-- a connection's worth of publishes through the resolver, with the server's table replayed alongside: the list
    of topics the server reconstructs -/
def lruConnection : OutResolver → List (Nat × Bytes) → List (Option Nat × Bytes) → List (Option Bytes)
  | _, _, [] => []
  | r, S, (alias, topic) :: rest =>
    let out := r.resolve alias topic
    _root_.GV.serverTopic S out.2 topic :: lruConnection out.1 (_root_.GV.serverApply S out.2 topic) rest

/-- **One resolution**: the server reconstructs exactly the published topic and the cache stays consistent with
    the server's table (distinct aliases within 1..maximum, every cached pair bound on the server). -/
theorem lru_one_resolution (r : OutResolver) (S : List (Nat × Bytes)) (cfg : Nat) (hk : r.kind = .lru cfg)
    (hcap : r.maxAlias ≤ lruCapacity cfg) (inv : LruInv r S) (alias : Option Nat) (topic : Bytes) :
    _root_.GV.serverTopic S (r.resolve alias topic).2 topic = some topic ∧
      LruInv (r.resolve alias topic).1 (_root_.GV.serverApply S (r.resolve alias topic).2 topic) :=
  let h := lru_step r S cfg hk hcap inv alias topic
  ⟨h.1, h.2.1⟩

/-- **Every connection, every sequence of publishes (any topics, any number, evictions included)**: after the
    reset done at CONNACK (any server Topic Alias Maximum, any configured cache size) the server reconstructs
    exactly the topic of every PUBLISH. -/
theorem lru_connection_faithful (r0 : OutResolver) (cfg max : Nat) (hk : r0.kind = .lru cfg) (pubs : List (Option Nat × Bytes)) :
    lruConnection (r0.reset max) [] pubs = pubs.map (fun p => some p.2) := by
  have key : ∀ (pubs : List (Option Nat × Bytes)) (r : OutResolver) (S : List (Nat × Bytes)), r.kind = .lru cfg →
      r.maxAlias ≤ lruCapacity cfg → LruInv r S → lruConnection r S pubs = pubs.map (fun p => some p.2) := by
    intro pubs
    induction pubs with
    | nil => intro r S _ _ _; rfl
    | cons p rest ih =>
      intro r S hk hcap inv
      obtain ⟨alias, topic⟩ := p
      have h := lru_step r S cfg hk hcap inv alias topic
      simp only [] at h
      simp only [lruConnection, List.map_cons]
      rw [h.1, ih _ _ (by rw [h.2.2.1]; exact hk) (by rw [h.2.2.2.1]; exact hcap) h.2.1]
  have hr := lru_reset_inv r0 cfg max hk
  exact key pubs _ _ hr.2.2 hr.2.1 hr.1

/-- aliases used never exceed the server's Topic Alias Maximum and are never 0 -/
theorem lru_alias_in_range (r : OutResolver) (S : List (Nat × Bytes)) (cfg : Nat) (hk : r.kind = .lru cfg)
    (hcap : r.maxAlias ≤ lruCapacity cfg) (inv : LruInv r S) (alias : Option Nat) (topic : Bytes) (a : Nat)
    (h : (r.resolve alias topic).2.alias = some a) : 1 ≤ a ∧ a ≤ r.maxAlias :=
  (lru_step r S cfg hk hcap inv alias topic).2.2.2.2 a h

/-- non-vacuity: capacity 2, three topics: a, b, a (hit), c (evicts b), b (rebound) — all reconstructed -/
example : lruConnection ((OutResolver.new (.lru 2)).reset 10) [] [(none, [97]), (none, [98]), (none, [97]), (none, [99]), (none, [98])]
    = [some [97], some [98], some [97], some [99], some [98]] := by decide

/-- the alias handed out fits the sixteen bits it is sent in: it is compared with the maximum *before* it is narrowed
    (with 65535 aliases in use, `len + 1` = 65536 would wrap to alias 0) -/
theorem lru_alias_fits_u16 (r : OutResolver) (S : List (Nat × Bytes)) (cfg : Nat) (hk : r.kind = .lru cfg)
    (hcap : r.maxAlias ≤ lruCapacity cfg) (inv : LruInv r S) (hmax : r.maxAlias ≤ 65535) (alias : Option Nat) (topic : Bytes) (a : Nat)
    (h : (r.resolve alias topic).2.alias = some a) : 1 ≤ a ∧ a ≤ 65535 :=
  let x := lru_alias_in_range r S cfg hk hcap inv alias topic a h
  ⟨x.1, Nat.le_trans x.2 hmax⟩

/-- **Filling the resolver**: the state the correspondence check reaches in one request (`alias.out.fill`: n publishes to n
    fresh topics) is the state the step-by-step model reaches - so the top of the alias range (65535 aliases in use) is
    compared with the implementation at the cost of one request. -/
theorem fill_is_stepwise (r : OutResolver) (n : Nat) (hn : n ≤ 262144) : r.fillFast n = r.resolveAll (fillTopics n) :=
  fillFast_eq r n hn

/-- a full resolver (3 aliases in use): the next fresh topic recycles the least recently used alias (1) -/
example :
    let r := (((OutResolver.new (.lru 3)).reset 3).fillFast 3).1
    (r.resolve none [110]).2 = { skipTopic := false, alias := some 1 } := by
  decide

end GV.Props.C17
