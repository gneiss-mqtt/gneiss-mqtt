/-
  Props/C04.lean — QoS 1/2 publishes follow the delivery protocol across reconnects and sessions.
  About Model/Engine.lean: `handle_pubrec`, the packet choice in `service_queue_aux`, the DUP handling in
  `handle_network_event_connection_closed` and `apply_session_present_to_connection` (protocol.rs).
-/
import GV.Props.C01
namespace GV.Props.C04
open GV

/-- what `service_queue_aux` puts on the wire for an operation: the PUBREL once there is one, else its packet -/
def wirePacket (o : Op) : Packet := o.pubrel.getD o.packet

/-- **Once a PUBREC has been received the PUBLISH is never sent again**: from then on the operation's wire
    packet is a PUBREL with the same packet identifier. -/
theorem after_pubrec_only_pubrel (e : Engine) (a : Ack) (opId : Nat) (o : Op) (p : Publish)
    (hs : stateBlocksAcks e.state = false) (hl : e.pendingPub.lookup a.packetId = some opId)
    (ho : e.op? opId = some o) (hid : o.id = opId) (hp : o.packet = .publish p) (hq : p.qos = 2) (hrc : a.reasonCode < 128)
    (hfirst : o.pubrel = none) :
    let e' := (e.handlePubrec a).1
    (e.handlePubrec a).2 = .ok ∧
    (e'.op? opId).map wirePacket = some (.pubrel { packetId := a.packetId }) ∧ e'.highQ = e.highQ ++ [opId] := by
  subst hid
  have hn : ¬ (a.reasonCode ≥ 128) := by omega
  unfold Engine.op? at ho
  simp [Engine.handlePubrec, hs, hl, ho, hp, hq, hn, hfirst, Engine.setOp, Engine.enqueue, Engine.op?, lookup_mapInsert_self, wirePacket]

/-- **A second PUBREC for the same delivery is a protocol error**: its PUBREL is already queued, being written or sent, and
    is not queued a second time - neither packet of a delivery is ever repeated within one connection, whatever the server
    repeats.  (Whole-history counterpart: `Props/C04.pubrel_queued_at_most_once`.) -/
theorem second_pubrec_is_an_error (e : Engine) (a : Ack) (opId : Nat) (o : Op) (p : Publish)
    (hs : stateBlocksAcks e.state = false) (hl : e.pendingPub.lookup a.packetId = some opId)
    (ho : e.op? opId = some o) (hp : o.packet = .publish p) (hq : p.qos = 2) (hpr : o.pubrel.isSome = true) :
    e.handlePubrec a = (e, .err "ProtocolError") := by
  simp [Engine.handlePubrec, hs, hl, ho, hp, hq, hpr]

/-- a failing PUBREC ends the delivery: the operation completes with it and nothing more is sent for it -/
theorem failing_pubrec_completes (e : Engine) (a : Ack) (opId : Nat) (o : Op) (p : Publish)
    (hs : stateBlocksAcks e.state = false) (hl : e.pendingPub.lookup a.packetId = some opId)
    (ho : e.op? opId = some o) (hp : o.packet = .publish p) (hq : p.qos = 2) (hrc : a.reasonCode ≥ 128)
    (hfirst : o.pubrel = none) (hnc : e.current ≠ some opId) (hnq : opId ∉ e.highQ) :
    e.handlePubrec a = e.completeSuccess opId (some (.pubrec a.packetId a.reasonCode)) := by
  have : (e.current == some opId) = false := by simpa using hnc
  simp [Engine.handlePubrec, hs, hl, ho, hp, hq, hrc, hfirst, this, hnq]

/-- a failing PUBREC does not complete the operation while its PUBREL is queued or being written (a successful PUBREC came
    first): the server cannot have seen the PUBREL yet, and completing the operation would drop the PUBREL (or pull it from
    under the encoder), so the (non-conformant) PUBREC is answered with a protocol error and the operation stays as it is -/
theorem failing_pubrec_before_pubrel_sent_is_an_error (e : Engine) (a : Ack) (opId : Nat) (o : Op) (p : Publish)
    (hs : stateBlocksAcks e.state = false) (hl : e.pendingPub.lookup a.packetId = some opId)
    (ho : e.op? opId = some o) (hp : o.packet = .publish p) (hq : p.qos = 2) (hrc : a.reasonCode ≥ 128)
    (hc : e.current = some opId ∨ opId ∈ e.highQ) : e.handlePubrec a = (e, .err "ProtocolError") := by
  cases hpr : o.pubrel.isSome with
  | true => simp [Engine.handlePubrec, hs, hl, ho, hp, hq, hpr]
  | false =>
    rcases hc with hc | hc
    · simp [Engine.handlePubrec, hs, hl, ho, hp, hq, hrc, hc, hpr]
    · simp [Engine.handlePubrec, hs, hl, ho, hp, hq, hrc, hc, hpr]

/-- **A PUBCOMP completes the delivery only after the PUBREL has left the client**: while the PUBREL is still queued or half
    written the PUBCOMP cannot be its answer - it is refused with a protocol error and the operation keeps its place, so
    the PUBREL is still sent (after the reconnect the error causes) until a PUBCOMP that answers it arrives. -/
theorem pubcomp_before_pubrel_sent_is_an_error (e : Engine) (a : Ack) (opId : Nat) (o : Op) (p : Publish)
    (hs : stateBlocksAcks e.state = false) (hl : e.pendingPub.lookup a.packetId = some opId)
    (ho : e.op? opId = some o) (hp : o.packet = .publish p) (hq : p.qos = 2)
    (hc : e.current = some opId ∨ opId ∈ e.highQ ∨ o.pubrel = none) : e.handlePubcomp a = (e, .err "ProtocolError") := by
  rcases hc with hc | hc | hc
  · cases hpr : o.pubrel <;> simp [Engine.handlePubcomp, hs, hl, ho, hp, hq, hc, hpr]
  · cases hpr : o.pubrel <;> simp [Engine.handlePubcomp, hs, hl, ho, hp, hq, hc, hpr]
  · simp [Engine.handlePubcomp, hs, hl, ho, hp, hq, hc]

theorem pubcomp_after_pubrel_sent_completes (e : Engine) (a : Ack) (opId : Nat) (o : Op) (p : Publish)
    (hs : stateBlocksAcks e.state = false) (hl : e.pendingPub.lookup a.packetId = some opId)
    (ho : e.op? opId = some o) (hp : o.packet = .publish p) (hq : p.qos = 2) (hpr : o.pubrel.isSome = true)
    (hnc : e.current ≠ some opId) (hnq : opId ∉ e.highQ) :
    e.handlePubcomp a = e.completeSuccess opId (some (.pubcomp a.packetId a.reasonCode)) := by
  have : (e.current == some opId) = false := by simpa using hnc
  simp [Engine.handlePubcomp, hs, hl, ho, hp, hq, hpr, this, hnq]

/-- **The first transmission has DUP = 0 and a retransmission DUP = 1 with everything else unchanged**: setting
    the flag changes only the flag. -/
theorem dup_changes_only_the_flag (p : Publish) (v : Bool) :
    setDup (.publish p) v = .publish { p with dup := v } := rfl

theorem dup_leaves_other_packets (p : Packet) (v : Bool) (h : ∀ pb, p ≠ .publish pb) : setDup p v = p := by
  cases p <;> simp [setDup] <;> exact absurd rfl (h _)

/-- marking an operation as a duplicate keeps its packet id, its PUBREL state and its content -/
theorem setDupFlag_keeps_identity (e : Engine) (id : Nat) (o : Op) (v : Bool) (ho : e.op? id = some o) (hid : o.id = id) :
    (e.setDupFlag id v).op? id = some { o with packet := setDup o.packet v } := by
  subst hid
  unfold Engine.op? at ho
  simp [Engine.setDupFlag, ho, Engine.setOp, Engine.op?, lookup_mapInsert_self]

/-- **Session lost: a retained publish restarts as a fresh message** — DUP cleared, packet id and PUBREL state
    dropped (the operation then gets a new id when it is sent). -/
theorem restart_clears_qos2_state (e : Engine) (id : Nat) (o : Op) (ho : e.op? id = some o) (hid : o.id = id) :
    ((e.clearQos2 id).op? id).bind (·.pubrel) = none := by
  subst hid
  unfold Engine.op? at ho
  simp [Engine.clearQos2, ho, Engine.setOp, Engine.op?, lookup_mapInsert_self]

/-- **A message reported complete is never transmitted again**: completion stops tracking the operation, and the
    service loop skips queue entries without an operation. -/
theorem completed_is_skipped (e : Engine) (all : Bool) (e1 : Engine) (id : Nat) (hc : e.current = none)
    (hd : e.dequeue all = (e1, some id)) (hgone : e1.op? id = none) :
    ∃ e', e.seatCurrent all = .cont e' ∧ e'.current = none := by
  have : ({ e1 with current := some id } : Engine).op? id = none := hgone
  simp [Engine.seatCurrent, hc, hd, this]

/-- within one connection a fully written publish waits in the pending table, it is not queued again -/
theorem written_publish_waits_for_ack (e : Engine) (id : Nat) (o : Op) (p : Publish)
    (hc : e.current = some id) (ho : e.op? id = some o) (hp : o.packet = .publish p) (hq : p.qos ≠ 0) :
    ∃ e', e.onFullyWritten = some e' ∧ e'.pendingPub.lookup p.packetId = some id ∧ e'.current = none ∧
      e'.userQ = e.userQ ∧ e'.resubQ = e.resubQ ∧ e'.highQ = e.highQ := by
  obtain ⟨ts, h3⟩ := startAckTimeout_shape ((e.fileWritten id o).setOp { o with pingBase := some e.now }) id
  have hf : e.fileWritten id o = { e with pendingPub := mapInsert e.pendingPub p.packetId id } := by
    unfold Engine.fileWritten; rw [hp]; exact if_neg hq
  have harm : ∀ en : Engine, en.armPingDeadline o = en := by
    intro en; unfold Engine.armPingDeadline; rw [hp]
  rw [onFullyWritten_eq e hc ho, h3, hf, harm]
  exact ⟨_, rfl, lookup_mapInsert_self e.pendingPub p.packetId id, rfl, rfl, rfl, rfl⟩

/-! ### every history -/

/-- **A PUBREL belongs to a delivery in progress.**  After any history: an operation that holds a PUBREL (its PUBREC was
    received) is either still in the pending-publish table of this connection or marked DUP for retransmission on a
    resumed session; whatever waits in the high-priority queue as a publish holds a PUBREL (a PUBLISH is never queued
    there), and a queued PUBREL belongs to an operation that is still pending. -/
theorem pubrel_belongs_to_a_delivery_in_progress (cfg : Config) (evs : List Event) (id : Nat) (o : Op)
    (h : (runEvents (Engine.new cfg) evs).1.ops.lookup id = some o) :
    (o.pubrel.isSome = true → pktDup o.packet = true ∨ id ∈ vals (runEvents (Engine.new cfg) evs).1.pendingPub) ∧
    (id ∈ (runEvents (Engine.new cfg) evs).1.highQ → isAckedPublish o.packet = true → o.pubrel.isSome = true) ∧
    (id ∈ (runEvents (Engine.new cfg) evs).1.highQ → o.pubrel.isSome = true → id ∈ vals (runEvents (Engine.new cfg) evs).1.pendingPub) := by
  have b := C01.big_after cfg evs
  refine ⟨?_, fun hi hk => b.h2 id hi o h hk, fun hi hp => b.pr2 id hi o h hp⟩
  intro hp
  rcases b.pr id o h hp with a | a | a
  · exact .inl a
  · exact .inr a
  · cases a

/-- **Only a QoS 2 publish ever holds a PUBREL**, after any history; and while a PUBLISH (not yet its PUBREL) is the
    packet being written, its operation is not yet in the pending-publish table - so an acknowledgement arriving then
    cannot be taken for it. -/
theorem pubrel_only_for_qos2 (cfg : Config) (evs : List Event) (id : Nat) (o : Op)
    (h : (runEvents (Engine.new cfg) evs).1.ops.lookup id = some o) :
    (o.pubrel.isSome = true → publishQos o.packet = some 2) ∧
    ((runEvents (Engine.new cfg) evs).1.current = some id → id ∈ vals (runEvents (Engine.new cfg) evs).1.pendingPub →
      o.pubrel.isSome = true) :=
  let x := C01.extra_after cfg evs
  ⟨x.x8 id o h, fun hc hm => x.x1c rfl id hc hm o h⟩

/-- **A PUBREL is queued at most once.**  After any history - whatever the server sent, repeated PUBRECs included - the
    high-priority queue names no operation twice: the PUBREL of a delivery (like every acknowledgement, ping, CONNECT and
    DISCONNECT queued there) is written once per connection, never repeated within it. -/
theorem pubrel_queued_at_most_once (cfg : Config) (evs : List Event) : (runEvents (Engine.new cfg) evs).1.highQ.Nodup :=
  (C01.extra_after cfg evs).x7

end GV.Props.C04
