/-
  Props/C02.lean — Outbound packets are spec-conformant and carry exactly what the user supplied.
  Property theorems only (helper lemmas live in Proofs/).  Statements quantify over every value,
  every step list and every sequence of buffer capacities; nothing here is sampled.
-/
import GV.Model.Encode
import GV.Proofs.Vli
import GV.Proofs.Encoder
import GV.Proofs.Lengths
namespace GV.Props.C02
open GV

/-- The variable-length integer the client writes is the standard's Variable Byte Integer, for
    every value the standard can express; larger values are refused, never truncated. -/
theorem vli_is_standard (v : Nat) :
    (v ≤ maxVli → encodeVli v = some (Spec.encVbi v)) ∧ (v > maxVli → encodeVli v = none) :=
  ⟨encodeVli_eq_spec v, (encodeVli_none_iff v).2⟩

/-- An independent decoder (written from the OASIS text) reads back every length the client writes,
    whatever follows it in the stream. -/
theorem vli_round_trip_independent (v : Nat) (rest : Bytes) (h : v ≤ maxVli) :
    ∃ bs, encodeVli v = some bs ∧ Spec.decVbi (bs ++ rest) = some (v, rest) :=
  ⟨Spec.encVbi v, encodeVli_eq_spec v h, specDecVbi_encVbi v rest h⟩

/-- The length function used for all Remaining Length / Property Length computations agrees with
    the number of bytes actually written. -/
theorem vli_size_matches (v : Nat) (h : v ≤ maxVli) :
    ∃ bs, encodeVli v = some bs ∧ vliSize v = some bs.length :=
  ⟨Spec.encVbi v, encodeVli_eq_spec v h, vliSize_eq_length v h⟩

/-- Chunking invariance of the resumable encoder: for every step list that can be encoded at all and
    every sequence of buffers (any capacity, any prefill) each leaving at least 4 free bytes, the
    concatenation of the chunks handed to the socket is the same byte string, no call fails, and
    `stepsWeight steps + 1` calls always suffice (termination). -/
theorem encoder_chunk_invariant (steps : List Step) (caps : List (Nat × Nat)) (bs : Bytes)
    (h : flattenSteps steps = some bs) (hc : ∀ c ∈ caps, 4 ≤ capFree c) :
    (encodeRun (stepsWeight steps + 1) steps caps []).2 = false ∧
    (encodeRun (stepsWeight steps + 1) steps caps []).1.flatten = bs := by
  have := encodeRun_correct (stepsWeight steps + 1) steps caps [] bs h hc (by omega)
  simpa using this

/-- Two different buffer sequences give the same stream. -/
theorem encoder_stream_independent_of_buffers (steps : List Step) (caps₁ caps₂ : List (Nat × Nat)) (bs : Bytes)
    (h : flattenSteps steps = some bs) (h₁ : ∀ c ∈ caps₁, 4 ≤ capFree c) (h₂ : ∀ c ∈ caps₂, 4 ≤ capFree c) :
    (encodeRun (stepsWeight steps + 1) steps caps₁ []).1.flatten =
    (encodeRun (stepsWeight steps + 1) steps caps₂ []).1.flatten := by
  rw [(encoder_chunk_invariant steps caps₁ bs h h₁).2, (encoder_chunk_invariant steps caps₂ bs h h₂).2]

/-- No call writes past the space it was given (so the output buffer is never resized). -/
theorem encoder_respects_capacity (steps : List Step) (free : Nat) :
    (encodeCall steps free).1.length ≤ free :=
  encodeCall_bound steps free

/-- **A packet is complete with its last byte.**  When `Encoder::encode` returns with steps left over, those steps still have
    a byte to emit: a packet that ends in an empty field (a present but empty payload, an empty client id) is reported complete
    by the call that writes its last byte, however full the buffer is - it is never left "being written" with nothing more
    to write (which stranded a QoS 0 result, had the server's CONNACK / PUBACK for the completely written packet refused, and
    re-sent a QoS 2 publish as a new message after a reconnect). -/
theorem packet_complete_with_its_last_byte (steps : List Step) (free : Nat) (hok : (encodeCall steps free).2.2 = false)
    (h : flattenSteps (encodeCall steps free).2.1 = some []) : (encodeCall steps free).2.1 = [] :=
  encodeCall_rest_has_bytes steps free hok h

/-- a PUBLISH with an empty payload into a buffer with room for exactly its bytes: complete -/
example : (encodeCall [.u8 48, .vli 5, .u16 3, .slice [116, 47, 49], .slice []] 8).2.1 = [] := by decide

/-! ### the lengths a packet announces are the lengths it writes

For every packet and every alias resolution the Remaining Length written in the fixed header is exactly the number
of bytes the remaining steps write, and the Property Length is exactly the number of property bytes.  (Whatever the
steps write is what goes on the wire, in order, by `encoder_chunk_invariant`.) -/

/-- the bytes written have the length the steps add up to -/
theorem wire_length_is_steps_length (steps : List Step) (bs : Bytes) (h : flattenSteps steps = some bs) :
    bs.length = stepsLen steps := flattenSteps_length steps bs h

/-- **PUBLISH (MQTT 5), every alias resolution**: the steps are fixed header, topic/packet-id part, Property Length,
    properties, payload; Property Length = property bytes (the alias property included exactly when the resolution
    carries an alias) and Remaining Length = all bytes after the fixed header. -/
theorem publish5_lengths_exact (p : Publish) (r : Resolution) (rl pl : Nat) (h : publishLengths5 p r = some (rl, pl)) :
    publishSteps5 p r = some ([Step.u8 (publishFirstByte p), .vli rl] ++ publishPre p r ++ [Step.vli pl] ++ publishProps p r ++ payloadSteps p) ∧
    stepsLen (publishProps p r) = pl ∧
    stepsLen (publishPre p r ++ [Step.vli pl] ++ publishProps p r ++ payloadSteps p) = rl := by
  refine ⟨publishSteps5_shape p r rl pl h, ?_⟩
  unfold publishLengths5 at h
  cases hsid : subIdsLen p.subscriptionIds with
  | none => rw [hsid] at h; cases h
  | some sidLen =>
    rw [hsid] at h
    have hprops := publishProps_len p r sidLen hsid
    dsimp only at h
    generalize userPropsLen p.userProps + optLen 2 p.payloadFormat + optLen 5 p.messageExpiry
        + optLen 3 r.alias + optBytesPropLen p.contentType + optBytesPropLen p.responseTopic
        + optBytesPropLen p.correlationData + sidLen = propLen at h hprops
    cases hvs : vliSize propLen with
    | none => rw [hvs] at h; cases h
    | some s =>
      rw [hvs] at h
      cases h
      refine ⟨hprops, ?_⟩
      simp only [stepsLen_append, stepsLen_cons, stepsLen_nil, publishPre_len, hprops, payloadSteps_len, stepLen, hvs, Option.getD_some]
      unfold payloadLen
      cases p.payload <;> dsimp only <;> omega

/-- **PUBLISH (MQTT 3.1.1)**: Remaining Length = bytes after the fixed header. -/
theorem publish311_length_exact (p : Publish) :
    publishSteps311 p = [Step.u8 (publishFirstByte p), .vli (publishLength311 p)] ++ publishPre p {} ++ payloadSteps p ∧
    stepsLen (publishPre p {} ++ payloadSteps p) = publishLength311 p := by
  constructor
  · simp only [publishSteps311, publishPre, payloadSteps, List.append_assoc]
    cases p.payload <;> rfl
  · simp only [stepsLen_append, publishPre_len, payloadSteps_len, publishLength311]
    unfold payloadLen
    cases p.payload <;> simp

/-- **PUBACK / PUBREC / PUBREL / PUBCOMP (MQTT 5)**: Remaining Length = bytes after the fixed header, in each of the
    three shapes (short form, reason code only, reason code + properties). -/
theorem ack5_length_exact (first : Nat) (p : Ack) (steps : List Step) (h : ackSteps5 first p = some steps) :
    ∃ rl body, steps = [Step.u8 first, .vli rl] ++ body ∧ stepsLen body = rl := by
  unfold ackSteps5 at h
  cases hl : ackLengths p with
  | none => rw [hl] at h; cases h
  | some x =>
    obtain ⟨rl, pl⟩ := x
    rw [hl] at h
    unfold ackLengths at hl
    dsimp only at h hl
    split at hl
    · next hp0 =>
      split at hl
      · next hrc =>
        cases hl
        rw [if_pos (by rw [hrc]; rfl)] at h
        cases h
        exact ⟨2, _, rfl, rfl⟩
      · next hrc =>
        cases hl
        rw [if_neg (by simp [hrc]), if_pos rfl] at h
        cases h
        exact ⟨3, _, rfl, rfl⟩
    · next hp0 =>
      split at hl
      · cases hl
      · next s hvs =>
        cases hl
        rw [if_neg (by simp only [Bool.and_eq_true, decide_eq_true_eq]; exact fun hb => hp0 hb.2), if_neg hp0] at h
        cases h
        refine ⟨_, _, by simp only [List.cons_append, List.nil_append]; rfl, ?_⟩
        simp only [stepsLen_cons, stepsLen_append, stOptBytesProp_len, stUserProps_len, stepLen, hvs, Option.getD_some]
        omega

/-- **SUBSCRIBE (MQTT 5)**: Remaining Length and Property Length are exact. -/
theorem subscribe5_lengths_exact (p : Subscribe) (rl pl : Nat) (h : subscribeLengths5 p = some (rl, pl)) :
    ∃ props entries, subscribeSteps5 p = some ([Step.u8 130, .vli rl, .u16 p.packetId, .vli pl] ++ props ++ entries) ∧
      stepsLen props = pl ∧ stepsLen ([Step.u16 p.packetId, .vli pl] ++ props ++ entries) = rl := by
  refine ⟨stOptNum .vli 11 p.subscriptionId ++ stUserProps p.userProps,
    p.subscriptions.flatMap (fun s => stLenBytes s.topicFilter ++ [Step.u8 (subscriptionOptions5 s)]), ?_, ?_⟩
  · simp only [subscribeSteps5, h, List.append_assoc, List.cons_append, List.nil_append]
  · unfold subscribeLengths5 at h
    cases hsid : optVliPropLen p.subscriptionId with
    | none => rw [hsid] at h; cases h
    | some sidLen =>
      rw [hsid] at h
      dsimp only at h
      cases hvs : vliSize (userPropsLen p.userProps + sidLen) with
      | none => rw [hvs] at h; cases h
      | some s =>
        rw [hvs] at h
        cases h
        have hprops : stepsLen (stOptNum .vli 11 p.subscriptionId ++ stUserProps p.userProps) =
            userPropsLen p.userProps + sidLen := by
          rw [stepsLen_append, stOptNum_vli_len 11 _ _ hsid, stUserProps_len, Nat.add_comm]
        refine ⟨hprops, ?_⟩
        simp only [stepsLen_append, stepsLen_cons, stepsLen_nil, hprops, sub_entries_len, stepLen, hvs, Option.getD_some]
        omega

/-- **UNSUBSCRIBE (MQTT 5)**: Remaining Length and Property Length are exact. -/
theorem unsubscribe5_lengths_exact (p : Unsubscribe) (rl pl : Nat) (h : unsubscribeLengths5 p = some (rl, pl)) :
    unsubscribeSteps5 p = some ([Step.u8 162, .vli rl, .u16 p.packetId, .vli pl] ++ stUserProps p.userProps ++ p.topicFilters.flatMap stLenBytes) ∧
      stepsLen (stUserProps p.userProps) = pl ∧
      stepsLen ([Step.u16 p.packetId, .vli pl] ++ stUserProps p.userProps ++ p.topicFilters.flatMap stLenBytes) = rl := by
  refine ⟨by simp only [unsubscribeSteps5, h], ?_⟩
  unfold unsubscribeLengths5 at h
  dsimp only at h
  cases hvs : vliSize (userPropsLen p.userProps) with
  | none => rw [hvs] at h; cases h
  | some s =>
    rw [hvs] at h
    cases h
    refine ⟨stUserProps_len _, ?_⟩
    simp only [stepsLen_append, stepsLen_cons, stepsLen_nil, stUserProps_len, unsub_filters_len, stepLen, hvs, Option.getD_some]
    omega

/-- **SUBSCRIBE / UNSUBSCRIBE (MQTT 3.1.1)**: Remaining Length is exact. -/
theorem subscribe311_length_exact (p : Subscribe) :
    ∃ body, subscribeSteps311 p = [Step.u8 130, .vli (subscribeLength311 p)] ++ body ∧ stepsLen body = subscribeLength311 p := by
  refine ⟨[.u16 p.packetId] ++ p.subscriptions.flatMap (fun s => stLenBytes s.topicFilter ++ [Step.u8 s.qos]), by simp [subscribeSteps311], ?_⟩
  simp only [stepsLen_append, stepsLen_cons, stepsLen_nil, sub_entries_len, subscribeLength311, stepLen]
  omega

theorem unsubscribe311_length_exact (p : Unsubscribe) :
    ∃ body, unsubscribeSteps311 p = [Step.u8 162, .vli (unsubscribeLength311 p)] ++ body ∧ stepsLen body = unsubscribeLength311 p := by
  refine ⟨[.u16 p.packetId] ++ p.topicFilters.flatMap stLenBytes, by simp [unsubscribeSteps311], ?_⟩
  simp only [stepsLen_append, stepsLen_cons, stepsLen_nil, unsub_filters_len, unsubscribeLength311, stepLen]
  omega

/-- **CONNECT (MQTT 3.1.1)**: Remaining Length is exact. -/
theorem connect311_length_exact (p : Connect) (steps : List Step) (h : connectSteps311 p = some steps) :
    ∃ rl body, steps = [Step.u8 16, .vli rl] ++ body ∧ stepsLen body = rl := by
  unfold connectSteps311 at h
  cases hl : connectLength311 p with
  | none => rw [hl] at h; cases h
  | some rl =>
    rw [hl] at h
    cases h
    refine ⟨rl, _, by simp only [List.cons_append, List.nil_append, List.append_assoc]; rfl, ?_⟩
    unfold connectLength311 at hl
    obtain ⟨-, hrl⟩ := Option.ite_none_left_eq_some.1 hl
    cases hrl
    -- the user name and password part is that of MQTT 5
    have hcred := credSteps_len p
    unfold credSteps credLen at hcred
    rw [stepsLen_append] at hcred
    simp only [stepsLen_cons, stepsLen_append, stLenOptBytes_len, stepLen]
    cases p.will with
    | none => simp only [stepsLen_nil, protocolBytes311, List.length_cons, List.length_nil]; omega
    | some w =>
      simp only [stepsLen_append, stLenBytes_len, stLenOptBytes_len, protocolBytes311, List.length_cons, List.length_nil]
      omega

/-- **CONNECT (MQTT 5)**: Remaining Length, CONNECT Property Length and Will Property Length are exact. -/
theorem connect5_lengths_exact (p : Connect) (rl pl wpl : Nat) (h : connectLengths5 p = some (rl, pl, wpl)) :
    connectSteps5 p = some ([Step.u8 16, .vli rl, .slice protocolBytes5, .u8 (connectFlags p), .u16 p.keepAlive, .vli pl]
      ++ connectPropSteps p ++ stLenOptBytes p.clientId ++ willSteps p wpl ++ credSteps p) ∧
    stepsLen (connectPropSteps p) = pl ∧
    stepsLen ([Step.slice protocolBytes5, .u8 (connectFlags p), .u16 p.keepAlive, .vli pl]
      ++ connectPropSteps p ++ stLenOptBytes p.clientId ++ willSteps p wpl ++ credSteps p) = rl := by
  refine ⟨by rw [connectSteps5, h], ?_⟩
  unfold connectLengths5 at h
  cases hvs : vliSize (connectPropLen p) with
  | none => rw [hvs] at h; cases h
  | some s =>
    rw [hvs] at h
    cases hwp : willPart p with
    | none => rw [hwp] at h; cases h
    | some x =>
      obtain ⟨wlen, wpl'⟩ := x
      rw [hwp] at h
      obtain ⟨-, h⟩ := Option.ite_none_left_eq_some.1 h
      cases h
      refine ⟨connectPropSteps_len p, ?_⟩
      simp only [stepsLen_append, stepsLen_cons, stepsLen_nil, connectPropSteps_len, stLenOptBytes_len,
        willSteps_len p wlen _ hwp, credSteps_len, stepLen, hvs, Option.getD_some, protocolBytes5, List.length_cons,
        List.length_nil]
      omega

/-- **DISCONNECT (MQTT 5)**: Remaining Length is exact in each of the three shapes. -/
theorem disconnect5_length_exact (p : Disconnect) (steps : List Step) (h : disconnectSteps5 p = some steps) :
    ∃ rl body, steps = [Step.u8 224, .vli rl] ++ body ∧ stepsLen body = rl := by
  unfold disconnectSteps5 at h
  cases hl : disconnectLengths p with
  | none => rw [hl] at h; cases h
  | some x =>
    obtain ⟨rl, pl⟩ := x
    rw [hl] at h
    unfold disconnectLengths at hl
    dsimp only at h hl
    split at hl
    · next hp0 =>
      split at hl
      · next hrc =>
        cases hl
        rw [if_pos (by rw [hrc]; rfl)] at h
        cases h
        exact ⟨0, [], rfl, rfl⟩
      · next hrc =>
        cases hl
        rw [if_neg (by simp [hrc]), if_pos rfl] at h
        cases h
        exact ⟨1, _, rfl, rfl⟩
    · next hp0 =>
      split at hl
      · cases hl
      · next s hvs =>
        cases hl
        rw [if_neg (by simp only [Bool.and_eq_true, decide_eq_true_eq]; exact fun hb => hp0 hb.1), if_neg hp0] at h
        cases h
        refine ⟨_, _, by simp only [List.cons_append, List.nil_append, List.append_assoc]; rfl, ?_⟩
        simp only [stepsLen_cons, stepsLen_append, stOptNum_u32_len, stOptBytesProp_len, stUserProps_len, stepLen, hvs,
          Option.getD_some]
        omega

def demoPublish : Publish :=
  { topic := [97, 47, 98], qos := 1, packetId := 7, payload := some [1, 2, 3, 4, 5, 6, 7, 8, 9] }

/-- Non-vacuity: a concrete PUBLISH with a 9-byte payload through 4- and 5-byte buffers meets the
    hypotheses of `encoder_chunk_invariant` and produces its 19 bytes. -/
example :
    (do let steps ← publishSteps5 demoPublish {}
        let bs ← flattenSteps steps
        pure ((encodeRun (stepsWeight steps + 1) steps [(4, 0), (5, 1)] []).1.flatten == bs && bs.length == 19
              && ([(4, 0), (5, 1)] : List (Nat × Nat)).all (fun c => decide (4 ≤ capFree c))))
      = some true := by
  decide

end GV.Props.C02
