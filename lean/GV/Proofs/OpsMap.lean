/- Proofs/OpsMap.lean — key-sorted association lists (`mapInsert` / `mapErase` / `List.lookup`) as finite maps:
   lookup after insertion and erasure, sortedness is preserved, membership = lookup, and insertion / erasure up to
   permutation.  Used by all the engine proofs. -/
import GV.Model.Engine
import GV.Proofs.Lru
namespace GV

theorem lookup_mapErase_self {β} (m : List (Nat × β)) (k : Nat) : (mapErase m k).lookup k = none := lookup_filter_self m k

theorem lookup_mapErase_ne {β} (m : List (Nat × β)) (k j : Nat) (h : j ≠ k) : (mapErase m k).lookup j = m.lookup j :=
  lookup_filter_ne m k j h

theorem lookup_mapErase {β} (m : List (Nat × β)) (k j : Nat) :
    (mapErase m k).lookup j = if j = k then none else m.lookup j := by
  by_cases h : j = k
  · rw [if_pos h, h]; exact lookup_mapErase_self m k
  · rw [if_neg h]; exact lookup_mapErase_ne m k j h

theorem lookup_mapErase_some {β} {m : List (Nat × β)} {k j : Nat} {v : β} (h : (mapErase m k).lookup j = some v) :
    j ≠ k ∧ m.lookup j = some v := by
  rw [lookup_mapErase] at h
  split at h
  · cases h
  · exact ⟨by assumption, h⟩

theorem lookup_cons_ite {β} (k : Nat) (v : β) (m : List (Nat × β)) (j : Nat) :
    ((k, v) :: m).lookup j = if j = k then some v else m.lookup j := by
  rw [List.lookup_cons]
  by_cases h : j = k
  · rw [if_pos h, beq_iff_eq.mpr h]
  · rw [if_neg h, beq_eq_false_iff_ne.mpr h]

theorem lookup_mapInsert {β} (m : List (Nat × β)) (k j : Nat) (v : β) :
    (mapInsert m k v).lookup j = if j = k then some v else m.lookup j := by
  induction m with
  | nil => exact lookup_cons_ite k v [] j
  | cons x xs ih =>
    obtain ⟨k', v'⟩ := x
    simp only [mapInsert]
    split
    · exact lookup_cons_ite k v _ j
    · split
      · rename_i hk
        rw [lookup_cons_ite, lookup_cons_ite, ← hk]
        split <;> rfl
      · rename_i hne
        rw [lookup_cons_ite, lookup_cons_ite, ih]
        by_cases h : j = k'
        · rw [if_pos h, if_pos h, if_neg (h ▸ Ne.symm hne)]
        · rw [if_neg h, if_neg h]

theorem lookup_mapInsert_self {β} (m : List (Nat × β)) (k : Nat) (v : β) : (mapInsert m k v).lookup k = some v := by
  rw [lookup_mapInsert, if_pos rfl]

theorem lookup_mapInsert_ne {β} (m : List (Nat × β)) (k j : Nat) (v : β) (h : j ≠ k) :
    (mapInsert m k v).lookup j = m.lookup j := by
  rw [lookup_mapInsert, if_neg h]

theorem lookup_mapInsert_some {β} {m : List (Nat × β)} {k j : Nat} {b x : β} (h : (mapInsert m k b).lookup j = some x) :
    (j = k ∧ x = b) ∨ (j ≠ k ∧ m.lookup j = some x) := by
  rw [lookup_mapInsert] at h
  split at h
  · cases h; exact .inl ⟨by assumption, rfl⟩
  · exact .inr ⟨by assumption, h⟩

theorem lookup_mapInsert_keep {β} {m : List (Nat × β)} {k j : Nat} {x : β} (b : β) (hne : j ≠ k) (h : m.lookup j = some x) :
    (mapInsert m k b).lookup j = some x := (lookup_mapInsert_ne _ _ _ _ hne).trans h

theorem mapErase_length_le {β} (m : List (Nat × β)) (k : Nat) : (mapErase m k).length ≤ m.length :=
  List.length_filter_le _ _

theorem mapInsert_length_le {β} (m : List (Nat × β)) (k : Nat) (v : β) : (mapInsert m k v).length ≤ m.length + 1 := by
  induction m with
  | nil => exact Nat.le_refl _
  | cons x xs ih =>
    obtain ⟨k', v'⟩ := x
    simp only [mapInsert]
    split
    · exact Nat.le_refl _
    · split
      · exact Nat.le_succ _
      · exact Nat.succ_le_succ ih

theorem mem_mapErase {β} {m : List (Nat × β)} {k : Nat} {y : Nat × β} : y ∈ mapErase m k ↔ y ∈ m ∧ y.1 ≠ k := by
  simp [mapErase, List.mem_filter]

theorem mem_mapInsert {β} {m : List (Nat × β)} {k : Nat} {v : β} {y : Nat × β} (hy : y ∈ mapInsert m k v) : y = (k, v) ∨ y ∈ m := by
  induction m with
  | nil => exact .inl (List.mem_singleton.mp hy)
  | cons x xs ih =>
    obtain ⟨k', v'⟩ := x
    simp only [mapInsert] at hy
    split at hy
    · exact List.mem_cons.mp hy
    · split at hy
      · exact (List.mem_cons.mp hy).imp_right (List.mem_cons_of_mem _)
      · rcases List.mem_cons.mp hy with h | h
        · exact .inr (h ▸ List.mem_cons_self ..)
        · exact (ih h).imp_right (List.mem_cons_of_mem _)

theorem forall_mem_mapInsert {β} {m : List (Nat × β)} {k : Nat} {v : β} {P : Nat × β → Prop} (hv : P (k, v)) (hm : ∀ x ∈ m, P x) :
    ∀ x ∈ mapInsert m k v, P x :=
  fun x hx => (mem_mapInsert hx).elim (· ▸ hv) (hm x)

theorem mem_of_lookup {β} {m : List (Nat × β)} {k : Nat} {v : β} (h : m.lookup k = some v) : (k, v) ∈ m := lookup_mem m k v h

theorem mapErase_of_lookup_none {β} {m : List (Nat × β)} {k : Nat} (h : m.lookup k = none) : mapErase m k = m :=
  List.filter_eq_self.mpr fun y hy => bne_comm.trans (List.lookup_eq_none_iff.mp h y hy)

theorem mapInsert_perm_of_none {β} {m : List (Nat × β)} {k : Nat} (v : β) (h : m.lookup k = none) :
    (mapInsert m k v).Perm ((k, v) :: m) := by
  induction m with
  | nil => exact .refl _
  | cons x xs ih =>
    obtain ⟨k', v'⟩ := x
    rw [lookup_cons_ite] at h
    have hne : k ≠ k' := fun heq => by rw [if_pos heq] at h; cases h
    rw [if_neg hne] at h
    simp only [mapInsert, if_neg hne]
    split
    · exact .refl _
    · exact ((ih h).cons (k', v')).trans (.swap ..)

/-! ### maps with ascending keys -/

def KeysSorted {β} (m : List (Nat × β)) : Prop := (m.map (·.1)).Pairwise (· < ·)

theorem KeysSorted.nil {β} : KeysSorted ([] : List (Nat × β)) := List.Pairwise.nil

theorem KeysSorted.tail {β} {x : Nat × β} {m : List (Nat × β)} (h : KeysSorted (x :: m)) : KeysSorted m :=
  (List.pairwise_cons.mp h).2

theorem KeysSorted.head_lt {β} {x : Nat × β} {m : List (Nat × β)} (h : KeysSorted (x :: m)) : ∀ y ∈ m, x.1 < y.1 :=
  fun y hy => (List.pairwise_cons.mp h).1 y.1 (List.mem_map_of_mem hy)

theorem KeysSorted.cons {β} {x : Nat × β} {m : List (Nat × β)} (h : KeysSorted m) (hlt : ∀ y ∈ m, x.1 < y.1) : KeysSorted (x :: m) :=
  List.pairwise_cons.mpr ⟨fun _ hk => let ⟨y, hy, e⟩ := List.mem_map.mp hk; e ▸ hlt y hy, h⟩

theorem KeysSorted.nodup {β} {m : List (Nat × β)} (h : KeysSorted m) : (m.map (·.1)).Nodup :=
  List.Pairwise.imp Nat.ne_of_lt h

theorem KeysSorted.mapErase {β} {m : List (Nat × β)} (h : KeysSorted m) (k : Nat) : KeysSorted (mapErase m k) :=
  List.Pairwise.sublist ((List.filter_sublist ..).map _) h

theorem lookup_of_mem {β} {m : List (Nat × β)} (hs : KeysSorted m) {k : Nat} {v : β} (h : (k, v) ∈ m) : m.lookup k = some v :=
  mem_lookup_of_nodup m k v hs.nodup h

theorem perm_cons_mapErase {β} {m : List (Nat × β)} (hs : KeysSorted m) {k : Nat} {v : β} (h : m.lookup k = some v) :
    m.Perm ((k, v) :: mapErase m k) :=
  (cons_filter_perm m k v hs.nodup (mem_of_lookup h)).symm

theorem mapInsert_perm_of_some {β} {m : List (Nat × β)} (hs : KeysSorted m) {k : Nat} (v : β) {v0 : β} (h : m.lookup k = some v0) :
    (mapInsert m k v).Perm ((k, v) :: mapErase m k) := by
  induction m with
  | nil => cases h
  | cons x xs ih =>
    obtain ⟨k', v'⟩ := x
    rw [lookup_cons_ite] at h
    by_cases hk : k = k'
    · subst hk
      have : mapErase ((k, v') :: xs) k = xs := (List.filter_cons_of_neg (by simp)).trans
        (List.filter_eq_self.mpr fun y hy => bne_iff_ne.mpr (Nat.ne_of_gt (hs.head_lt y hy)))
      rw [this]
      simp only [mapInsert, Nat.lt_irrefl, if_false, if_true]
      exact .refl _
    · rw [if_neg hk] at h
      have hlt : k' < k := hs.head_lt _ (mem_of_lookup h)
      have : mapErase ((k', v') :: xs) k = (k', v') :: mapErase xs k := List.filter_cons_of_pos (bne_iff_ne.mpr (Ne.symm hk))
      rw [this]
      simp only [mapInsert, if_neg (Nat.lt_asymm hlt), if_neg hk]
      exact ((ih hs.tail h).cons _).trans (.swap ..)

theorem KeysSorted.mapInsert {β} {m : List (Nat × β)} (h : KeysSorted m) (k : Nat) (v : β) : KeysSorted (mapInsert m k v) := by
  induction m with
  | nil => exact .cons .nil nofun
  | cons x xs ih =>
    obtain ⟨k', v'⟩ := x
    simp only [GV.mapInsert]
    split
    · rename_i hlt
      exact .cons h (List.forall_mem_cons.mpr ⟨hlt, fun y hy => Nat.lt_trans hlt (h.head_lt y hy)⟩)
    · split
      · rename_i heq
        exact .cons h.tail (heq ▸ h.head_lt)
      · rename_i h1 h2
        refine .cons (ih h.tail) fun y hy => ?_
        rcases mem_mapInsert hy with rfl | hy'
        · exact Nat.lt_of_le_of_ne (Nat.le_of_not_lt h1) (Ne.symm h2)
        · exact h.head_lt y hy'

end GV
