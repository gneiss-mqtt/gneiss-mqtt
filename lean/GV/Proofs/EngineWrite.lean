/- Proofs/EngineWrite.lean — the write path: an operation that waits for a write completion has a write pending.
   `PW e`: (1) the written-but-unflushed list is empty unless a write completion is pending; (2) while the engine runs, the
   operation being written has steps left, and they start with a step that emits a byte.  Holds after every history
   (`pw_after`).  This is the invariant the "packet ending in an empty field" defect (D64) broke.
   `KA e`: while connected with a negotiated keep alive, a next ping is scheduled (`ka_after`).
   Most of the engine touches nothing either invariant reads (`FW`); seating the next operation keeps the write bookkeeping
   and the clock (`FS`); inside the service loop the bytes produced so far in the call stand in for the write completion to
   come (`L1`).  The service call is walked once for both invariants. -/
import GV.Proofs.EngineNoPanic
import GV.Proofs.Encoder
import GV.Proofs.EngineState
namespace GV

/-! ### the two invariants -/

def runs (s : PState) : Prop := s = .connected ∨ s = .pendingConnack

/-- a step list does not start with a step that emits nothing -/
def GoodHead : List Step → Prop
  | .slice [] :: _ => False
  | _ => True

/-- (1) an operation waits for a write completion only while a write is pending -/
def PW1 (e : Engine) : Prop := e.pendingWC ≠ [] → e.pendingWrite = true

/-- (2) while the engine runs, the operation being written has steps left and they start with a byte-emitting step -/
def PW2 (e : Engine) : Prop := runs e.state → ∀ id, e.current = some id → e.encSteps ≠ [] ∧ GoodHead e.encSteps

def PW (e : Engine) : Prop := PW1 e ∧ PW2 e

theorem PW.halt {e : Engine} (h1 : PW1 e) : PW ({ e with state := .halted } : Engine) :=
  ⟨h1, fun hr => by rcases hr with x | x <;> cases x⟩

theorem PW.idle {e : Engine} (hwc : e.pendingWC = []) (hcur : e.current = none) : PW e :=
  ⟨fun hne => absurd hwc hne, fun _ id hc => by rw [hcur] at hc; cases hc⟩

/-- while connected with a negotiated keep alive of K > 0 seconds a next ping is scheduled -/
def KA (e : Engine) : Prop := e.state = .connected → ∀ s, e.settings = some s → s.serverKeepAlive > 0 → e.nextPing.isSome = true

theorem KA.of_eq {a b : Engine} (h : KA a) (h1 : b.state = a.state := by rfl) (h2 : b.settings = a.settings := by rfl)
    (h3 : b.nextPing = a.nextPing := by rfl) : KA b := by
  intro hc s hs hk
  rw [h3]; exact h (by rw [← h1]; exact hc) s (by rw [← h2]; exact hs) hk

theorem KA.of_state {e : Engine} (h : e.state ≠ .connected) : KA e := fun hc => absurd hc h

theorem KA.halt {e : Engine} : KA ({ e with state := .halted } : Engine) := fun hc => by cases hc

/-! ### the frame relation: what most of the engine leaves alone -/

/-- what the write path and the keep-alive clock read, unchanged: the state stays, or the engine halts, or the handshake
    completes; while connected on both sides the negotiated settings are the same and a scheduled ping stays scheduled -/
structure FW (a b : Engine) : Prop where
  pendingWrite : b.pendingWrite = a.pendingWrite
  pendingWC : b.pendingWC = a.pendingWC
  current : b.current = a.current
  encSteps : b.encSteps = a.encSteps
  outBytes : b.outBytes = a.outBytes
  st : b.state = a.state ∨ b.state = .halted ∨ (a.state = .pendingConnack ∧ b.state = .connected ∧
    ∀ s, b.settings = some s → s.serverKeepAlive > 0 → b.nextPing.isSome = true)
  ka : b.state = .connected → a.state = .connected → b.settings = a.settings ∧ (a.nextPing.isSome = true → b.nextPing.isSome = true)

theorem FW.runs {a b : Engine} (h : FW a b) : runs b.state → runs a.state := by
  intro hr
  rcases h.st with x | x | x
  · rw [x] at hr; exact hr
  · rw [x] at hr; rcases hr with y | y <;> cases y
  · exact .inr x.1

/-- the usual way to the relation: the fields it reads are literally the same, except that a DISCONNECT may halt the
    engine and a scheduled ping may move -/
theorem FW.of_fields {a b : Engine} (hst : b.state = a.state ∨ (a.state = .pendingDisconnect ∧ b.state = .halted))
    (hnp : a.nextPing.isSome = true → b.nextPing.isSome = true) (h1 : b.pendingWrite = a.pendingWrite := by rfl)
    (h2 : b.pendingWC = a.pendingWC := by rfl) (h3 : b.current = a.current := by rfl) (h4 : b.encSteps = a.encSteps := by rfl)
    (h5 : b.outBytes = a.outBytes := by rfl) (h6 : b.settings = a.settings := by rfl) : FW a b :=
  ⟨h1, h2, h3, h4, h5, hst.elim .inl (fun h => .inr (.inl h.2)), fun _ _ => ⟨h6, hnp⟩⟩

theorem FW.of_eq {a b : Engine} (h1 : b.pendingWrite = a.pendingWrite := by rfl) (h2 : b.pendingWC = a.pendingWC := by rfl)
    (h3 : b.current = a.current := by rfl) (h4 : b.encSteps = a.encSteps := by rfl) (h5 : b.outBytes = a.outBytes := by rfl)
    (h6 : b.state = a.state := by rfl) (h7 : b.settings = a.settings := by rfl) (h8 : b.nextPing = a.nextPing := by rfl) : FW a b :=
  FW.of_fields (.inl h6) (fun h => by rw [h8]; exact h) h1 h2 h3 h4 h5 h7

theorem FW.refl (a : Engine) : FW a a := FW.of_eq

theorem FW.trans {a b c : Engine} (h1 : FW a b) (h2 : FW b c) : FW a c := by
  refine ⟨h2.pendingWrite.trans h1.pendingWrite, h2.pendingWC.trans h1.pendingWC, h2.current.trans h1.current,
   h2.encSteps.trans h1.encSteps, h2.outBytes.trans h1.outBytes, ?_, ?_⟩
  · rcases h2.st with x | x | x
    · rcases h1.st with y | y | y
      · exact .inl (x.trans y)
      · exact .inr (.inl (x.trans y))
      · have hc : c.state = .connected := x.trans y.2.1
        refine .inr (.inr ⟨y.1, hc, fun s hs hk => ?_⟩)
        obtain ⟨s2, n2⟩ := h2.ka hc y.2.1
        exact n2 (y.2.2 s (by rw [← s2]; exact hs) hk)
    · exact .inr (.inl x)
    · rcases h1.st with y | y | y
      · exact .inr (.inr ⟨by rw [← y]; exact x.1, x.2.1, x.2.2⟩)
      · rw [y] at x; cases x.1
      · rw [y.2.1] at x; cases x.1
  · intro hc ha
    have hb : b.state = .connected := by
      rcases h1.st with y | y | y
      · rw [y]; exact ha
      · exfalso
        rcases h2.st with x | x | x
        · rw [x, y] at hc; cases hc
        · rw [x] at hc; cases hc
        · rw [y] at x; cases x.1
      · rw [ha] at y; cases y.1
    obtain ⟨s1, n1⟩ := h1.ka hb ha
    obtain ⟨s2, n2⟩ := h2.ka hc hb
    exact ⟨s2.trans s1, fun h => n2 (n1 h)⟩

theorem FW.halt {a b : Engine} (h : FW a b) : FW a { b with state := .halted } :=
  ⟨h.pendingWrite, h.pendingWC, h.current, h.encSteps, h.outBytes, .inr (.inl rfl), fun hh => by cases hh⟩

theorem PW.of_fw {a b : Engine} (h : PW a) (f : FW a b) : PW b :=
  ⟨fun hne => by rw [f.pendingWrite]; exact h.1 (by rw [← f.pendingWC]; exact hne),
   fun hr id hc => by rw [f.encSteps]; exact h.2 (f.runs hr) id (by rw [← f.current]; exact hc)⟩

theorem KA.of_fw {a b : Engine} (h : KA a) (f : FW a b) : KA b := by
  intro hc s hs hk
  rcases f.st with x | x | x
  · have ha : a.state = .connected := by rw [← x]; exact hc
    obtain ⟨s1, n1⟩ := f.ka hc ha
    exact n1 (h ha s (by rw [← s1]; exact hs) hk)
  · rw [x] at hc; cases hc
  · exact x.2.2 s hs hk

theorem completeSuccess_fw (e : Engine) (id : Nat) (c : Option Completion) : FW e (e.completeSuccess id c).1 := by
  cases ho : e.op? id with
  | none => rw [completeSuccess_none c ho]; exact FW.refl _
  | some o =>
    obtain ⟨sc, st, oc, np, heq, hst, hnp⟩ := completeSuccess_shape e id c ho
    rw [heq]; exact FW.of_fields hst hnp

theorem completeFailure_fw (e : Engine) (id : Nat) (k : String) : FW e (e.completeFailure id k).1 := by
  cases ho : e.op? id with
  | none => rw [completeFailure_none k ho]; exact FW.refl _
  | some o =>
    obtain ⟨sc, st, oc, heq, hst⟩ := completeFailure_shape e id k ho
    rw [heq]; exact FW.of_fields hst (fun h => h)

theorem failAllIgnoringDisconnect_fw (k : String) (ids : List Nat) (e : Engine) : FW e (e.failAllIgnoringDisconnect ids k).1 :=
  failAllIgnoringDisconnect_keeps (FW e) k ids (fun en id _ h => h.trans (completeFailure_fw en id k)) e (FW.refl e)

theorem succeedAll_fw (ids : List Nat) (e : Engine) : FW e (e.succeedAll ids).1 :=
  succeedAll_keeps (FW e) ids (fun en id _ h => h.trans (completeSuccess_fw en id none)) e (FW.refl e)

theorem processAckTimeouts_fw (fuel : Nat) (e : Engine) : FW e (Engine.processAckTimeouts fuel e).1 :=
  processAckTimeouts_keeps (FW e) (fun en id d _ _ h => (h.trans FW.of_eq).trans (completeFailure_fw _ id "AckTimeout")) fuel e (FW.refl e)

theorem createOp_fw (e : Engine) (p : Packet) (u : Option (Nat × Option Nat)) : FW e (e.createOp p u).1 := FW.of_eq

theorem enqueue_fw (e : Engine) (id : Nat) (q : QueueKind) (front : Bool) (e2 : Engine) (h : e.enqueue id q front = some e2) : FW e e2 := by
  rw [enqueue_some h]
  cases q <;> exact FW.of_eq

theorem setOp_fw (e : Engine) (o : Op) : FW e (e.setOp o) := FW.of_eq

theorem setDupFlag_fw (e : Engine) (id : Nat) (v : Bool) : FW e (e.setDupFlag id v) := by
  rcases setDupFlag_cases e id v with ⟨_, h⟩ | ⟨o, _, h⟩ <;> rw [h]
  · exact FW.refl _
  · exact setOp_fw _ _

theorem clearQos2_fw (e : Engine) (id : Nat) : FW e (e.clearQos2 id) := by
  rcases clearQos2_cases e id with ⟨_, h⟩ | ⟨o, _, h⟩ <;> rw [h]
  · exact FW.refl _
  · exact setOp_fw _ _

theorem unbind_fw (e : Engine) (id : Nat) : FW e (e.unbind id) := by
  rcases unbind_cases e id with ⟨_, h⟩ | ⟨o, pid, _, _, h⟩ <;> rw [h]
  · exact FW.refl _
  · exact FW.of_eq

theorem submit_fw (e : Engine) (packet : Packet) (user : Option (Nat × Option Nat)) (q : QueueKind) (front : Bool) :
    FW e (e.submit packet user q front).1 := by
  rw [submit_eq]
  have h1 := createOp_fw e packet user
  exact fst_ite (FW e) (fun _ => h1.trans (completeFailure_fw _ _ _))
    (fun _ => h1.trans (enqueue_fw _ _ _ _ _ (enqueue_created e packet user q front)))

theorem handleUser_fw (e : Engine) (u : UserEvent) : FW e (e.handleUser u).1 := by
  cases u <;> exact submit_fw _ _ _ _ _

theorem serviceKeepAlive_fw (e : Engine) : FW e e.serviceKeepAlive.1 :=
  serviceKeepAlive_keeps (FW e) e (FW.refl e)
    ((createOp_fw e .pingreq none).trans (enqueue_fw _ _ _ _ _ (enqueue_created e .pingreq none .high true)))
    -- the ping is due and queued: the next one is scheduled
    (fun e2 s t h2 _ => h2.trans (FW.of_fields (.inl rfl) (fun _ => rfl)))

/-! ### inbound packets leave the write path alone -/

/-- an accepted CONNACK: the handshake completes, and with a negotiated keep alive the first ping is scheduled -/
theorem handleConnack_fw (e : Engine) (c : Connack) : FW e (e.handleConnack c).1 := by
  refine handleConnack_keeps (FW e) e c (fun _ h => h.trans FW.of_eq) (fun hpc => ?_) (FW.refl e)
  have h1 : FW e (e.connackEntered c) := ⟨rfl, rfl, rfl, rfl, rfl, .inr (.inr ⟨hpc, rfl, fun s' hs hk => by
    cases (hs : some (e.buildSettings c) = some s')
    exact congrArg Option.isSome (if_pos hk)⟩), fun _ ha => by rw [hpc] at ha; cases ha⟩
  have h2 : FW (e.connackEntered c) (e.connackEntered c).initSlowStart := by rw [initSlowStart_shape]; exact FW.of_eq
  exact applySessionPresent_keeps (FW e)
    (sessionLostStage_keeps (FW e) (fun x id k h => h.trans (completeFailure_fw x id k)) (fun x id h => h.trans (setDupFlag_fw x id false))
      (fun _ _ _ _ _ h => h.trans FW.of_eq))
    (sessionRequeueStage_keeps (FW e) (fun x id h => h.trans (unbind_fw x id)) (fun x id h => h.trans (clearQos2_fw x id))
      (fun _ _ _ h => h.trans FW.of_eq))
    _ c.sessionPresent (h1.trans h2)

theorem handlePacket_fw (e : Engine) (p : Packet) : FW e (e.handlePacket p).1 :=
  handlePacket_keeps (FW e) e p (FW.refl e) (fun c _ => handleConnack_fw e c) (fun _ _ _ _ _ _ _ => completeSuccess_fw _ _ _)
    (fun _ _ _ _ _ _ _ _ => FW.of_eq) (fun _ _ _ _ _ => FW.of_eq) (fun _ _ _ => FW.of_eq)

theorem handleData_fw (e : Engine) (bs : Bytes) : FW e (e.handleData bs).1 :=
  handleData_keeps (FW e) (fun _ h => h.halt) (fun _ _ _ h => h.trans FW.of_eq) (fun x p h => h.trans (handlePacket_fw x p))
    e bs (FW.refl e)

/-! ### the encoder: what is left over, and what a call emits -/

theorem dropEmptySlices_good (l : List Step) : GoodHead (dropEmptySlices l) := by
  induction l with
  | nil => trivial
  | cons s rest ih =>
    cases s with
    | slice b =>
      cases b with
      | nil => exact ih
      | cons x xs => trivial
    | _ => trivial

/-- whatever a call leaves over starts with a step that emits a byte -/
theorem encodeCall_rest_good : ∀ (steps : List Step) (free : Nat), (encodeCall steps free).2.2 = false → GoodHead (encodeCall steps free).2.1 := by
  intro steps
  induction steps with
  | nil => intro free _; trivial
  | cons s rest ih =>
    intro free hok
    by_cases hf : free < 4
    · rw [encodeCall_full s rest hf]; exact dropEmptySlices_good _
    · rcases encodeCall_cons s rest (Nat.le_of_not_lt hf) with ⟨a, -, -, e⟩ | ⟨b, rfl, hlt, e⟩ | ⟨-, e⟩
      · rw [e] at hok ⊢; exact ih _ hok
      · rw [e]
        cases hd : b.drop free with
        | nil => exact absurd (List.drop_eq_nil_iff.1 hd) (Nat.not_le.2 hlt)
        | cons x xs => trivial
      · rw [e] at hok; cases hok

/-- a call that completes the steps has emitted at least one of their bytes: with room for a fixed header the first step
    emits one, and without room nothing is consumed -/
theorem encodeCall_done_emits (steps : List Step) (free : Nat) (hne : steps ≠ []) (hg : GoodHead steps)
    (hok : (encodeCall steps free).2.2 = false) (hdone : (encodeCall steps free).2.1 = []) : (encodeCall steps free).1 ≠ [] := by
  obtain ⟨s, rest, rfl⟩ := List.exists_cons_of_ne_nil hne
  have hs : s ≠ .slice [] := fun h => by rw [h] at hg; exact hg
  by_cases hf : free < 4
  · rw [encodeCall_full s rest hf, dropEmptySlices.eq_2 _ fun _ hr => hs (List.cons.inj hr).1] at hdone
    cases hdone
  · rcases encodeCall_cons s rest (Nat.le_of_not_lt hf) with ⟨a, ha, -, e⟩ | ⟨b, rfl, -, e⟩ | ⟨-, e⟩
    · rw [e]; exact List.append_ne_nil_of_left_ne_nil (atomBytes_ne_nil s hs a ha) _
    · rw [e] at hdone; cases hdone
    · rw [e] at hok; cases hok

/-! ### every packet starts with its first byte -/

def StartsU8 (steps : List Step) : Prop := ∃ b rest, steps = Step.u8 b :: rest

theorem StartsU8.good {steps : List Step} (h : StartsU8 steps) : steps ≠ [] ∧ GoodHead steps := by
  obtain ⟨b, rest, rfl⟩ := h
  exact ⟨List.cons_ne_nil _ _, trivial⟩

def OptStarts (o : Option (List Step)) : Prop := ∀ steps, o = some steps → StartsU8 steps

theorem OptStarts.of_some {l : List Step} (h : StartsU8 l) : OptStarts (some l) := fun _ hs => by cases hs; exact h

theorem OptStarts.of_none : OptStarts none := fun _ hs => by cases hs

theorem OptStarts.of_ok {o : Option (List Step)} (ho : OptStarts o) {steps : List Step} (h : ofOpt o = .ok steps) : StartsU8 steps := by
  cases o with
  | none => cases h
  | some l => cases h; exact ho _ rfl

/-- the MQTT 5 builders compute the lengths first (which may fail) and then lay down the fixed header -/
theorem ackSteps5_starts (fb : Nat) (a : Ack) : OptStarts (ackSteps5 fb a) := by
  unfold ackSteps5
  cases ackLengths a with
  | none => exact .of_none
  | some x => exact ite_keeps OptStarts (.of_some ⟨_, _, rfl⟩) (ite_keeps OptStarts (.of_some ⟨_, _, rfl⟩) (.of_some ⟨_, _, rfl⟩))

theorem packetSteps_starts (v : Version) (r : Resolution) (p : Packet) (steps : List Step) (h : packetSteps v r p = .ok steps) :
    StartsU8 steps := by
  cases p with
  | connect c =>
    refine OptStarts.of_ok ?_ h
    cases v with
    | v5 =>
      show OptStarts (connectSteps5 c)
      unfold connectSteps5
      cases connectLengths5 c with
      | none => exact .of_none
      | some x => exact .of_some ⟨_, _, rfl⟩
    | v311 =>
      show OptStarts (connectSteps311 c)
      unfold connectSteps311
      cases connectLength311 c with
      | none => exact .of_none
      | some x => exact .of_some ⟨_, _, rfl⟩
  | publish pb =>
    cases v with
    | v5 =>
      refine OptStarts.of_ok ?_ h
      unfold publishSteps5
      cases publishLengths5 pb r with
      | none => exact .of_none
      | some x =>
        -- the list is a long chain of appends: bring its first step to the front before comparing
        exact .of_some (by simp only [List.cons_append]; exact ⟨_, _, rfl⟩)
    | v311 => exact (OptStarts.of_some ⟨_, _, rfl⟩).of_ok h
  | subscribe sp =>
    cases v with
    | v5 =>
      refine OptStarts.of_ok ?_ h
      unfold subscribeSteps5
      cases subscribeLengths5 sp with
      | none => exact .of_none
      | some x => exact .of_some ⟨_, _, rfl⟩
    | v311 => exact (OptStarts.of_some ⟨_, _, rfl⟩).of_ok h
  | unsubscribe up =>
    cases v with
    | v5 =>
      refine OptStarts.of_ok ?_ h
      unfold unsubscribeSteps5
      cases unsubscribeLengths5 up with
      | none => exact .of_none
      | some x => exact .of_some ⟨_, _, rfl⟩
    | v311 => exact (OptStarts.of_some ⟨_, _, rfl⟩).of_ok h
  | pingreq => exact (OptStarts.of_some ⟨_, _, rfl⟩).of_ok h
  | disconnect d =>
    cases v with
    | v5 =>
      refine OptStarts.of_ok ?_ h
      unfold disconnectSteps5
      cases disconnectLengths d with
      | none => exact .of_none
      | some x => exact ite_keeps OptStarts (.of_some ⟨_, _, rfl⟩) (ite_keeps OptStarts (.of_some ⟨_, _, rfl⟩) (.of_some ⟨_, _, rfl⟩))
    | v311 => exact (OptStarts.of_some ⟨_, _, rfl⟩).of_ok h
  | puback a =>
    cases v with
    | v5 => exact (ackSteps5_starts 64 a).of_ok h
    | v311 => exact (OptStarts.of_some ⟨_, _, rfl⟩).of_ok h
  | pubrec a =>
    cases v with
    | v5 => exact (ackSteps5_starts 80 a).of_ok h
    | v311 => exact (OptStarts.of_some ⟨_, _, rfl⟩).of_ok h
  | pubrel a =>
    cases v with
    | v5 => exact (ackSteps5_starts 98 a).of_ok h
    | v311 => exact (OptStarts.of_some ⟨_, _, rfl⟩).of_ok h
  | pubcomp a =>
    cases v with
    | v5 => exact (ackSteps5_starts 112 a).of_ok h
    | v311 => exact (OptStarts.of_some ⟨_, _, rfl⟩).of_ok h
  | _ => cases h

/-! ### seating the next operation -/

/-- what the steps that seat the next operation leave alone -/
structure FQ (a b : Engine) : Prop where
  pendingWrite : b.pendingWrite = a.pendingWrite
  pendingWC : b.pendingWC = a.pendingWC
  outBytes : b.outBytes = a.outBytes

/-- ... and under them the keep-alive clock goes on -/
structure FS (a b : Engine) : Prop extends FQ a b where
  ka : KA a → KA b

theorem FS.of_eq {a b : Engine} (h1 : b.pendingWrite = a.pendingWrite := by rfl) (h2 : b.pendingWC = a.pendingWC := by rfl)
    (h3 : b.outBytes = a.outBytes := by rfl) (h4 : b.state = a.state := by rfl) (h5 : b.settings = a.settings := by rfl)
    (h6 : b.nextPing = a.nextPing := by rfl) : FS a b :=
  ⟨⟨h1, h2, h3⟩, fun h => h.of_eq h4 h5 h6⟩

theorem FS.refl (a : Engine) : FS a a := FS.of_eq

theorem FS.trans {a b c : Engine} (h1 : FS a b) (h2 : FS b c) : FS a c :=
  ⟨⟨h2.pendingWrite.trans h1.pendingWrite, h2.pendingWC.trans h1.pendingWC, h2.outBytes.trans h1.outBytes⟩, fun h => h2.ka (h1.ka h)⟩

theorem FW.toFS {a b : Engine} (h : FW a b) : FS a b := ⟨⟨h.pendingWrite, h.pendingWC, h.outBytes⟩, fun k => k.of_fw h⟩

theorem dequeue_fs (e : Engine) (all : Bool) : FS e (e.dequeue all).1 ∧ (e.dequeue all).1.current = e.current := by
  obtain ⟨_, _, _, he⟩ := dequeue_shape e all
  rw [he]; exact ⟨FS.of_eq, rfl⟩

theorem acquireIdFor_fs (e : Engine) (id : Nat) : FS e (e.acquireIdFor id).1 := by
  rcases acquireIdFor_cases e id with ⟨_, h⟩ | ⟨_, _, _, h⟩ | ⟨_, _, _, _, _, ⟨_, h⟩ | ⟨_, _, h⟩⟩ <;> rw [h] <;> exact FS.of_eq

/-- the outcome of seating: the write bookkeeping is untouched and the keep-alive clock goes on; a loop that goes on or
    returns cleanly has no current operation, or one with good steps (`g`: if an operation seated before had them) -/
def SeatW (g : Prop) (e : Engine) : Seat → Prop
  | .ret e' r => FS e e' ∧ (r = .ok → e'.current = none)
  | .cont e' => FS e e' ∧ e'.current = none
  | .encode e' => FS e e' ∧ ∃ id, e'.current = some id ∧ (g → e'.encSteps ≠ [] ∧ GoodHead e'.encSteps)

theorem SeatW.trans {g : Prop} {e e1 : Engine} (h : FS e e1) : ∀ {s : Seat}, SeatW True e1 s → SeatW g e s
  | .ret _ _, w => ⟨h.trans w.1, w.2⟩
  | .cont _, w => ⟨h.trans w.1, w.2⟩
  | .encode _, ⟨f, id, hc, hg⟩ => ⟨h.trans f, id, hc, fun _ => hg trivial⟩

theorem rejectCurrent_w (e4 : Engine) (id : Nat) (resolution : Resolution) (x : VErr) : SeatW True e4 (e4.rejectCurrent id resolution x) := by
  obtain ⟨res, hcases⟩ := rejectCurrent_cases e4 id resolution x
  have hf := completeFailure_fw ({ e4 with outRes := res, current := none } : Engine) id x.name
  have hq : FS e4 (({ e4 with outRes := res, current := none } : Engine).completeFailure id x.name).1 :=
    (FS.of_eq : FS e4 { e4 with outRes := res, current := none }).trans hf.toFS
  have hcur : (({ e4 with outRes := res, current := none } : Engine).completeFailure id x.name).1.current = none := hf.current
  rcases hcases with ⟨hE, _⟩ | hE | hE <;> rw [hE]
  · exact ⟨hq, fun _ => hcur⟩
  · exact ⟨hq, fun _ => hcur⟩
  · exact ⟨hq, hcur⟩

theorem prepareCurrent_w (e3 : Engine) (id : Nat) (o : Op) (hc : e3.current = some id) : SeatW True e3 (e3.prepareCurrent id o) := by
  obtain ⟨res, resolution, _, hcases⟩ := prepareCurrent_cases e3 id o
  have h4 : FS e3 { e3 with outRes := res } := FS.of_eq
  rcases hcases with ⟨_, hE⟩ | ⟨x, hE⟩ | ⟨x, hE⟩ | ⟨steps, hps, hE⟩ <;> rw [hE]
  · exact ⟨h4, fun hh => by cases hh⟩
  · exact SeatW.trans h4 (rejectCurrent_w _ id resolution x)
  · exact ⟨h4, fun hh => by cases x <;> cases hh⟩
  · exact ⟨FS.of_eq, id, hc, fun _ => (packetSteps_starts _ _ _ steps hps).good⟩

theorem seatCurrent_w (e : Engine) (all : Bool) :
    SeatW (∀ c, e.current = some c → e.encSteps ≠ [] ∧ GoodHead e.encSteps) e (e.seatCurrent all) := by
  rcases seatCurrent_cases e all with ⟨⟨c, hc⟩, hS⟩ | ⟨hc, ⟨_, hS⟩ | ⟨e1, id, hdq, hrest⟩⟩
  · rw [hS]; exact ⟨FS.refl _, c, hc, fun h => h c hc⟩
  · rw [hS]; exact ⟨(dequeue_fs e all).1, fun _ => (dequeue_fs e all).2.trans hc⟩
  · obtain ⟨hq, hcur⟩ := dequeue_fs e all
    rw [hdq] at hq hcur
    rcases hrest with ⟨_, hS⟩ | ⟨o0, _, hrest⟩
    · rw [hS]; exact ⟨hq.trans FS.of_eq, rfl⟩
    · have hqa := acquireIdFor_fs ({ e1 with current := some id } : Engine) id
      obtain ⟨_, _, _, f4, _, _, _⟩ := acquireIdFor_frame ({ e1 with current := some id } : Engine) id
      have hq3 : FS e (({ e1 with current := some id } : Engine).acquireIdFor id).1 :=
        (hq.trans (FS.of_eq : FS e1 { e1 with current := some id })).trans hqa
      rcases hrest with ⟨hnok, hS⟩ | ⟨_, ⟨_, hS⟩ | ⟨o, _, hS⟩⟩ <;> rw [hS]
      · exact ⟨hq3, fun hh => by rw [hh] at hnok; cases hnok⟩
      · exact ⟨hq3, fun hh => by cases hh⟩
      · exact SeatW.trans hq3 (prepareCurrent_w _ id o f4)

/-! ### a packet completely written -/

theorem fileWritten_w (e : Engine) (id : Nat) (o : Op) : (e.fileWritten id o).outBytes = e.outBytes ∧ (KA e → KA (e.fileWritten id o)) := by
  rcases fileWritten_kinds e id o with ⟨_, _, _, hE⟩ | ⟨_, st, hst, hE⟩ <;> rw [hE]
  · exact ⟨rfl, fun k => k.of_eq⟩
  · rcases hst with rfl | rfl
    · exact ⟨rfl, fun k => k.of_eq⟩
    · -- a DISCONNECT being written: the engine leaves the Connected state
      exact ⟨rfl, fun _ => KA.of_state (fun hc => by cases hc)⟩

theorem startAckTimeout_fw (e : Engine) (id : Nat) : FW e (e.startAckTimeout id) := by
  obtain ⟨ts, hE⟩ := startAckTimeout_shape e id
  rw [hE]; exact FW.of_eq

/-- a PINGREQ written restarts the keep alive interval -/
theorem armPingDeadline_fw (e : Engine) (o : Op) : FW e (e.armPingDeadline o) := by
  obtain ⟨pd, np, hE, hnp⟩ := armPingDeadline_shape e o
  rw [hE]; exact FW.of_fields (.inl rfl) hnp

theorem onFullyWritten_w (e e3 : Engine) (hw : e.onFullyWritten = some e3) :
    e3.outBytes = e.outBytes ∧ e3.current = none ∧ (KA e → KA e3) := by
  obtain ⟨id, o, _, _, rfl⟩ := onFullyWritten_cases hw
  obtain ⟨hb, hk⟩ := fileWritten_w e id o
  have f := ((setOp_fw (e.fileWritten id o) { o with pingBase := some e.now }).trans (startAckTimeout_fw _ id)).trans
    (armPingDeadline_fw _ o)
  exact ⟨f.outBytes.trans hb, rfl, fun k => ((hk k).of_fw f).of_eq⟩

/-! ### the service call -/

/-- the loop's own bookkeeping: bytes produced in this call stand in for the write completion to come -/
def L1 (used : Nat) (e : Engine) : Prop := (e.pendingWC ≠ [] → e.pendingWrite = true ∨ used < e.outBytes.length) ∧ used ≤ e.outBytes.length

theorem L1.of_fq {used : Nat} {a b : Engine} (h : L1 used a) (f : FQ a b) : L1 used b :=
  ⟨fun hne => by rw [f.pendingWrite, f.outBytes]; exact h.1 (by rw [← f.pendingWC]; exact hne), by rw [f.outBytes]; exact h.2⟩

theorem L1.grow {used : Nat} {a b : Engine} (h : L1 used a) (hw : b.pendingWrite = a.pendingWrite) (hc : b.pendingWC = a.pendingWC)
    (out : Bytes) (hb : b.outBytes = a.outBytes ++ out) : L1 used b := by
  have hl : a.outBytes.length ≤ b.outBytes.length := by rw [hb, List.length_append]; exact Nat.le_add_right ..
  exact ⟨fun hne => by rw [hw]; exact (h.1 (by rw [← hc]; exact hne)).imp (fun x => x) (fun x => Nat.lt_of_lt_of_le x hl),
    Nat.le_trans h.2 hl⟩

/-- a stretch of the loop: the keep-alive clock goes on; the bookkeeping is kept and, if the stretch ends cleanly, the second
    half of the write-path invariant -/
def LoopW (e : Engine) (x : Engine × Res) : Prop :=
  (KA e → KA x.1) ∧ ∀ used, L1 used e → PW2 e → L1 used x.1 ∧ (x.2 = .ok → PW2 x.1)

theorem LoopW.trans {a b : Engine} {x : Engine × Res} (h1 : LoopW a (b, .ok)) (h2 : LoopW b x) : LoopW a x :=
  ⟨fun k => h2.1 (h1.1 k), fun used l p => h2.2 used (h1.2 used l p).1 ((h1.2 used l p).2 rfl)⟩

theorem serviceQueueAux_w (all : Bool) (cap : Nat) (fuel : Nat) (e0 : Engine) : LoopW e0 (Engine.serviceQueueAux all cap fuel e0) := by
  refine serviceQueueAux_ind all cap (fun e => LoopW e0 (e, .ok)) (LoopW e0) (fun _ h => h) (fun e hi hst => ?_) fuel e0
    ⟨id, fun _ h1 h2 => ⟨h1, fun _ => h2⟩⟩
  have sw := seatCurrent_w e all
  generalize e.seatCurrent all = seat at sw ⊢
  cases seat with
  | ret e1 r => exact hi.trans ⟨sw.1.ka, fun _ h1 _ => ⟨h1.of_fq sw.1.toFQ, fun hr _ id hc => by rw [sw.2 hr] at hc; cases hc⟩⟩
  | cont e1 => exact hi.trans ⟨sw.1.ka, fun _ h1 _ => ⟨h1.of_fq sw.1.toFQ, fun _ _ id hc => by rw [sw.2] at hc; cases hc⟩⟩
  | encode e1 =>
    obtain ⟨hq, id, hc, hg⟩ := sw
    have l1 : ∀ used, L1 used e → L1 used e1 := fun _ h => h.of_fq hq.toFQ
    refine ⟨fun s _ => hi.trans ⟨hq.ka, fun used h1 _ => ⟨l1 used h1, fun hh => by cases hh⟩⟩, fun _ _ _ _ _ => ?_⟩
    unfold Engine.encodeCurrent
    generalize hres : encodeCall e1.encSteps (cap - e1.outBytes.length) = res
    obtain ⟨out, rest, failed⟩ := res
    dsimp only
    have k2 : KA e → KA ({ e1 with outBytes := e1.outBytes ++ out, encSteps := rest } : Engine) := fun k => (hq.ka k).of_eq
    have l2 : ∀ used, L1 used e → L1 used ({ e1 with outBytes := e1.outBytes ++ out, encSteps := rest } : Engine) :=
      fun used h => (l1 used h).grow rfl rfl out rfl
    have hrest : ({ e1 with outBytes := e1.outBytes ++ out, encSteps := rest } : Engine).encSteps = rest := rfl
    have hbytes : ({ e1 with outBytes := e1.outBytes ++ out, encSteps := rest } : Engine).outBytes = e1.outBytes ++ out := rfl
    generalize ({ e1 with outBytes := e1.outBytes ++ out, encSteps := rest } : Engine) = e2 at k2 l2 hrest hbytes ⊢
    refine ⟨fun _ => hi.trans ⟨k2, fun used h1 _ => ⟨l2 used h1, fun hh => by cases hh⟩⟩, fun hff hne2 => hi.trans ?_,
      fun hff hempty e3 hfw => hi.trans ?_⟩
    · have hgr := encodeCall_rest_good e1.encSteps (cap - e1.outBytes.length) (by rw [hres]; exact hff)
      rw [hres] at hgr
      refine ⟨k2, fun used h1 _ => ⟨l2 used h1, fun _ _ i _ => ?_⟩⟩
      show e2.encSteps ≠ [] ∧ GoodHead e2.encSteps
      rw [hrest]
      exact ⟨fun hh => (by rw [hh] at hne2; cases hne2), hgr⟩
    · obtain ⟨w1, w3, wk⟩ := onFullyWritten_w e2 e3 hfw
      refine ⟨fun k => wk (k2 k), fun used h1 h2 => ?_⟩
      obtain ⟨hne, hgh⟩ := hg (fun c hcc => h2 hst c hcc)
      -- the packet is complete: this call emitted at least one of its bytes
      have hout : out ≠ [] := by
        have := encodeCall_done_emits e1.encSteps (cap - e1.outBytes.length) hne hgh (by rw [hres]; exact hff)
          (by rw [hres]; exact List.isEmpty_iff.mp hempty)
        rw [hres] at this; exact this
      have hgt : used < e3.outBytes.length := by
        rw [w1, hbytes, List.length_append]
        have : 0 < out.length := List.length_pos_iff.mpr hout
        have := (l1 used h1).2
        omega
      exact ⟨⟨fun _ => .inr hgt, Nat.le_of_lt hgt⟩, fun _ _ i hi => by rw [w3] at hi; cases hi⟩

/-- a piece of the service call: the keep-alive clock goes on; the first half of the write-path invariant is kept and, if
    the piece succeeds, the second -/
def SW (a : Engine) (x : Engine × Res) : Prop := (KA a → KA x.1) ∧ (PW a → PW1 x.1 ∧ (x.2 = .ok → PW2 x.1))

theorem SW.of_fw {a : Engine} {x : Engine × Res} (f : FW a x.1) : SW a x :=
  ⟨fun k => k.of_fw f, fun h => ⟨(h.of_fw f).1, fun _ => (h.of_fw f).2⟩⟩

theorem SW.bind {a : Engine} {x : Engine × Res} {f : Engine → Engine × Res} (h1 : SW a x) (h2 : SW x.1 (f x.1)) :
    SW a (andThen x f) :=
  andThen_elim (SW a) (fun _ => h1) (fun hr => ⟨fun k => h2.1 (h1.1 k), fun h => h2.2 ⟨(h1.2 h).1, (h1.2 h).2 hr⟩⟩)

theorem serviceQueue_w (e : Engine) (all : Bool) (cap prefill : Nat) : SW e (e.serviceQueue all cap prefill) := by
  rw [serviceQueue_eq]
  unfold serviceQueueEnd
  have r := serviceQueueAux_w all cap (2 * (e.highQ.length + e.resubQ.length + e.userQ.length) + 4)
    { e with outBytes := List.replicate (min prefill cap) 0 }
  generalize Engine.serviceQueueAux all cap (2 * (e.highQ.length + e.resubQ.length + e.userQ.length) + 4)
    { e with outBytes := List.replicate (min prefill cap) 0 } = x at r ⊢
  obtain ⟨e1, rr⟩ := x
  refine ⟨fun k => (r.1 k.of_eq).of_eq, fun h => ?_⟩
  have hlen : (List.replicate (min prefill cap) (0 : UInt8)).length = min prefill cap := List.length_replicate ..
  obtain ⟨l1, h2⟩ := r.2 (min prefill cap) ⟨fun hne => .inl (h.1 hne), Nat.le_of_eq hlen.symm⟩ h.2
  refine ⟨fun hne => ?_, h2⟩
  show (if (e1.outBytes.drop (min prefill cap)).isEmpty then e1.pendingWrite else true) = true
  by_cases hemp : (e1.outBytes.drop (min prefill cap)).isEmpty = true
  · rw [if_pos hemp]
    -- nothing was produced in this call: a write was pending before
    exact (l1.1 hne).resolve_right (Nat.not_lt.mpr (List.drop_eq_nil_iff.mp (List.isEmpty_iff.mp hemp)))
  · rw [if_neg hemp]

theorem serviceCore_w (e : Engine) (cap prefill : Nat) : SW e (e.serviceCore cap prefill) := by
  have pat : ∀ en : Engine, SW en (Engine.processAckTimeouts (en.timeouts.length + 1) en) := fun en => .of_fw (processAckTimeouts_fw _ en)
  rcases serviceCore_cases e cap prefill with ⟨_, hE⟩ | ⟨_, hE⟩ | ⟨_, hE⟩ | ⟨_, ⟨_, hE⟩ | ⟨d, _, hE⟩⟩ | ⟨_, hE⟩ <;> rw [hE]
  · exact .of_fw (FW.refl e)
  · exact .of_fw (FW.refl e)
  · exact pat e
  · exact .of_fw (FW.refl e)
  · exact ite_keeps (SW e) (.of_fw (FW.refl e)) (serviceQueue_w e false cap prefill)
  · exact (pat e).bind ((SW.of_fw (serviceKeepAlive_fw _)).bind ((serviceQueue_w _ true cap prefill).bind (pat _)))

theorem service_w (e : Engine) (cap prefill : Nat) :
    (KA e → KA (e.service cap prefill).1) ∧ (PW e → (e.service cap prefill).2.NP → PW (e.service cap prefill).1) := by
  have hc := serviceCore_w e cap prefill
  rcases service_cases e cap prefill with ⟨hne, hE⟩ | ⟨k, _, hE⟩ <;> rw [hE]
  · refine ⟨hc.1, fun h hnp => ⟨(hc.2 h).1, (hc.2 h).2 ?_⟩⟩
    cases hr : (e.serviceCore cap prefill).2 with
    | ok => rfl
    | err k => exact absurd hr (hne k)
    | panic s => exact absurd hr (hnp s)
  · exact ⟨fun _ => KA.halt, fun h _ => PW.halt (hc.2 h).1⟩

theorem service_ka (e : Engine) (cap prefill : Nat) (h : KA e) : KA (e.service cap prefill).1 :=
  (service_w e cap prefill).1 h

/-! ### the other events -/

theorem handleOpened_w (e : Engine) (d : Nat) : KA (e.handleOpened d).1 ∧ (Inv e → PW e → PW (e.handleOpened d).1) := by
  rw [handleOpened_eq]
  refine ite_elim (fun x : Engine × Res => KA x.1 ∧ (Inv e → PW e → PW x.1)) (fun _ => ⟨KA.halt, fun _ h => PW.halt h.1⟩) fun hst => ?_
  have hd : e.state = .disconnected := by simpa using hst
  exact ⟨KA.of_state (fun hc => by cases hc), fun hinv _ => PW.idle (hinv.2.2.1 hd).2.2.2.2.1 rfl⟩

theorem handleClosed_w (e : Engine) : (KA e → KA e.handleClosed.1) ∧ (Inv e → PW e → PW e.handleClosed.1) := by
  by_cases hd : e.state = .disconnected
  · rw [handleClosed_fst, if_pos (by rw [hd]; rfl)]; exact ⟨id, fun _ h => h⟩
  · have hst := handleClosed_state e hd
    refine ⟨fun _ => KA.of_state (fun hc => by rw [hst] at hc; cases hc), fun hinv _ => ?_⟩
    have hD := (handleClosed_inv e hinv).2.2.1 hst
    exact PW.idle hD.2.2.2.2.1 hD.1

theorem handleWriteCompletion_w (e : Engine) :
    (KA e → KA e.handleWriteCompletion.1) ∧ (PW e → PW e.handleWriteCompletion.1) := by
  refine handleWriteCompletion_elim (fun x => (KA e → KA x.1) ∧ (PW e → PW x.1)) e ⟨id, id⟩
    (fun _ => ⟨fun _ => KA.halt, fun h => PW.halt h.1⟩) fun _ => ?_
  have f := succeedAll_fw e.pendingWC { e with pendingWrite := false, pendingWC := [] }
  refine ⟨fun k => KA.of_fw ?_ f, fun h => PW.of_fw ?_ f⟩
  · exact k.of_eq
  · exact ⟨fun hne => absurd rfl hne, h.2⟩

theorem reset_w (e : Engine) : KA e.reset ∧ PW e.reset := by
  obtain ⟨hs, -, -, -, -, hc, -, -, -, hw, -⟩ := reset_fields e
  exact ⟨KA.of_state (fun h => by rcases hs with a | a <;> rw [a] at h <;> cases h), PW.idle hw hc⟩

/-! ### every event, every history -/

theorem step_pw (e : Engine) (ev : Event) (hinv : Inv2 e) (hcap : ev.capOk) (h : PW e) : PW (step e ev).1 :=
  step_keeps (fun b => Inv2 b ∧ PW b) PW ev (fun t => ⟨hinv.begin t, h⟩) (fun _ _ hp => hp) (fun _ hp => PW.halt hp.1)
    (fun b u hb => hb.2.of_fw (handleUser_fw b u)) (fun b d hb => (handleOpened_w b d).2 hb.1.1 hb.2)
    (fun b hb => (handleClosed_w b).2 hb.1.1 hb.2) (fun b bs hb => hb.2.of_fw (handleData_fw b bs))
    (fun b hb => (handleWriteCompletion_w b).2 hb.2)
    (fun b _ cap pre hev hb => (service_w b cap pre).2 hb.2 (service_np b cap pre (by subst hev; exact hcap) hb.1.1 hb.1.2))
    (fun _ hb => hb.2) (fun b _ => (reset_w b).2)

theorem step_ka (e : Engine) (ev : Event) (h : KA e) : KA (step e ev).1 :=
  step_keeps KA KA ev (fun _ => h.of_eq) (fun _ _ hk => hk.of_eq) (fun _ _ => KA.halt)
    (fun b u hb => hb.of_fw (handleUser_fw b u)) (fun b d _ => (handleOpened_w b d).1) (fun b => (handleClosed_w b).1)
    (fun b bs hb => hb.of_fw (handleData_fw b bs)) (fun b => (handleWriteCompletion_w b).1)
    (fun b _ cap pre _ => service_ka b cap pre) (fun _ hb => hb) (fun b _ => (reset_w b).1)

/-- C08, after every history from a fresh engine in which each service call offers room for a fixed header: an operation
    waits for a write completion only while a write is pending, and while the engine runs the operation being written has
    a byte left to write -/
theorem pw_after (cfg : Config) (evs : List Event) (hc : ∀ ev ∈ evs, ev.capOk) : PW (runEvents (Engine.new cfg) evs).1 :=
  (runEvents_keeps (fun e => Inv2 e ∧ PW e) evs _ (fun e ev hev h => ⟨step_inv2 e ev h.1, step_pw e ev h.1 (hc ev hev) h.2⟩)
    ⟨⟨new_inv cfg, new_extra cfg⟩, PW.idle rfl rfl⟩).2

/-- C14, after every history from a fresh engine: while connected with a negotiated keep alive K > 0 the next PINGREQ is
    scheduled -/
theorem ka_after (cfg : Config) (evs : List Event) : KA (runEvents (Engine.new cfg) evs).1 :=
  runEvents_keeps KA evs _ (fun e ev _ => step_ka e ev) (fun hc => by cases hc)

end GV
