/- Proofs/Counting.lean — "no element occurs more often than before": a relation on lists that composes, is implied by
   permutations, is compatible with append, and carries `Nodup` backwards.  Core Lean only. -/
namespace GV

def Sp (a b : List Nat) : Prop := ∀ x, a.count x ≤ b.count x

theorem Sp.refl (a : List Nat) : Sp a a := fun _ => Nat.le_refl _

theorem Sp.trans {a b c : List Nat} (h1 : Sp a b) (h2 : Sp b c) : Sp a c := fun x => Nat.le_trans (h1 x) (h2 x)

theorem Sp.of_eq {a b : List Nat} (h : a = b) : Sp a b := by rw [h]; exact Sp.refl _

theorem Sp.of_perm {a b : List Nat} (h : a.Perm b) : Sp a b := fun x => by rw [h.count_eq]; exact Nat.le_refl _

theorem Sp.swap (a b : List Nat) : Sp (a ++ b) (b ++ a) := Sp.of_perm List.perm_append_comm

theorem Sp.nil (b : List Nat) : Sp [] b := fun _ => by simp

theorem Sp.append {a b c d : List Nat} (h1 : Sp a b) (h2 : Sp c d) : Sp (a ++ c) (b ++ d) := fun x => by
  rw [List.count_append, List.count_append]
  exact Nat.add_le_add (h1 x) (h2 x)

theorem Sp.nodup {a b : List Nat} (h : Sp a b) (hb : b.Nodup) : a.Nodup :=
  List.nodup_iff_count.mpr fun x => Nat.le_trans (h x) (List.nodup_iff_count.mp hb x)

theorem nodup_append_of {a b : List Nat} (ha : a.Nodup) (hb : b.Nodup) (hd : ∀ x ∈ a, x ∉ b) : (a ++ b).Nodup :=
  List.nodup_append.mpr ⟨ha, hb, fun x hx y hy hxy => hd x hx (hxy ▸ hy)⟩

end GV
