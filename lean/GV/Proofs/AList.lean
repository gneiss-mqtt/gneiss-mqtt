/- Proofs/AList.lean — association lists used as maps: the model binds a key by consing the new pair onto the list
   filtered of that key (written inline in Model/Alias.lean and in `serverApply`, Proofs/Lru.lean). -/
namespace GV

theorem lookup_filter_ne {α β} [BEq α] [LawfulBEq α] (l : List (α × β)) (a b : α) (h : b ≠ a) :
    (l.filter (fun e => e.1 != a)).lookup b = l.lookup b := by
  induction l with
  | nil => rfl
  | cons x xs ih =>
    rw [List.filter_cons]
    split
    · rw [List.lookup_cons, List.lookup_cons, ih]
    · rename_i hx
      have : x.1 = a := by simpa using hx
      rw [ih, List.lookup_cons, this, beq_eq_false_iff_ne.mpr h]

theorem lookup_filter_self {α β} [BEq α] [LawfulBEq α] (l : List (α × β)) (a : α) :
    (l.filter (fun e => e.1 != a)).lookup a = none :=
  List.lookup_eq_none_iff.mpr fun _ hp => bne_comm.trans (List.mem_filter.mp hp).2

/-- binding `a` to `v` the model's way: new binding first, older binding of the same key removed -/
theorem lookup_insert {α β} [BEq α] [LawfulBEq α] [DecidableEq α] (l : List (α × β)) (a b : α) (v : β) :
    ((a, v) :: l.filter (fun e => e.1 != a)).lookup b = if b = a then some v else l.lookup b := by
  by_cases h : b = a
  · subst h; simp [List.lookup]
  · have : (b == a) = false := by simp [h]
    simp only [List.lookup, this, if_neg h]
    exact lookup_filter_ne l a b h

end GV
