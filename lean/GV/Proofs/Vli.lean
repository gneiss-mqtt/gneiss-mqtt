/-
  Proofs/Vli.lean — variable-length integers: the code's loop encoder, its size function, the code's
  decoder and the standard's decoder all agree, for every value below 2^28.
-/
import GV.Model.Bytes
import GV.Spec.Codec
namespace GV

@[simp] theorem u8_toNat (n : Nat) : (u8 n).toNat = n % 256 := by
  simp [u8]

/-- a continuation byte: seven bits of payload under a set bit 7 -/
theorem u8_cont_toNat (n : Nat) : (u8 (n % 128 + 128)).toNat = n % 128 + 128 := by
  rw [u8_toNat, Nat.mod_eq_of_lt (Nat.add_lt_add_right (Nat.mod_lt n (by decide)) 128)]

/-- one round of the `while !done` loop, with the loop test as a comparison -/
theorem encodeVliLoop_succ (fuel v : Nat) :
    encodeVliLoop (fuel + 1) v =
      if v < 128 then [u8 v] else u8 (v % 128 + 128) :: encodeVliLoop fuel (v / 128) := by
  rw [encodeVliLoop]
  by_cases h : v < 128
  · rw [if_pos h, if_pos (Nat.div_eq_of_lt h), Nat.mod_eq_of_lt h]
  · rw [if_neg h, if_neg (fun h0 => h (Nat.lt_of_div_eq_zero (by decide) h0))]

/-- one byte of `decode_vli`, with bit 7 tested by comparison and masked by subtraction -/
theorem decodeVliLoop_cons (fuel acc m : Nat) (b : UInt8) (rest : Bytes) :
    decodeVliLoop (fuel + 1) acc m (b :: rest) =
      if b.toNat < 128 then .value (acc + b.toNat * m) rest
      else decodeVliLoop fuel (acc + (b.toNat - 128) * m) (m * 128) rest := by
  rw [decodeVliLoop]
  by_cases h : b.toNat < 128
  · rw [if_pos h, if_pos (Nat.div_eq_of_lt h), Nat.mod_eq_of_lt h]
  · have hle := Nat.le_of_not_lt h
    rw [if_neg h, if_neg (fun h0 => h (Nat.lt_of_div_eq_zero (by decide) h0)), Nat.mod_eq_sub_mod hle,
      Nat.mod_eq_of_lt (Nat.sub_lt_left_of_lt_add hle b.toNat_lt)]

/-- the loop of `encode_vli` writes exactly the standard's Variable Byte Integer -/
theorem encodeVliLoop_eq_spec (v : Nat) (h : v ≤ maxVli) : encodeVliLoop 4 v = Spec.encVbi v := by
  have d2 : v / 128 / 128 = v / 16384 := Nat.div_div_eq_div_mul v 128 128
  have d3 : v / 16384 / 128 = v / 2097152 := Nat.div_div_eq_div_mul v 16384 128
  have c2 : v / 128 < 128 ↔ v < 16384 := Nat.div_lt_iff_lt_mul (by decide)
  have c3 : v / 16384 < 128 ↔ v < 2097152 := Nat.div_lt_iff_lt_mul (by decide)
  have c4 : v / 2097152 < 128 := Nat.div_lt_of_lt_mul (Nat.lt_succ_of_le h)
  unfold Spec.encVbi
  -- four rounds of the loop, its tests and quotients rewritten to those of the standard's text
  simp only [encodeVliLoop_succ, d2, d3, c2, c3, if_pos c4]
  by_cases h1 : v < 128
  · rw [if_pos h1, if_pos h1]
  · rw [if_neg h1, if_neg h1]
    by_cases h2 : v < 16384
    · rw [if_pos h2, if_pos h2]
    · rw [if_neg h2, if_neg h2]
      by_cases h3 : v < 2097152
      · rw [if_pos h3, if_pos h3]
      · rw [if_neg h3, if_neg h3]

theorem encodeVli_eq_spec (v : Nat) (h : v ≤ maxVli) : encodeVli v = some (Spec.encVbi v) := by
  unfold encodeVli
  rw [if_neg (Nat.not_lt.2 h), encodeVliLoop_eq_spec v h]

theorem encodeVli_none_iff (v : Nat) : encodeVli v = none ↔ v > maxVli := by
  unfold encodeVli; by_cases h : v > maxVli <;> simp [h]

theorem encodeVli_some {v : Nat} {bs : Bytes} (h : encodeVli v = some bs) : v ≤ maxVli ∧ bs = encodeVliLoop 4 v := by
  unfold encodeVli at h
  by_cases hv : v > maxVli
  · rw [if_pos hv] at h; cases h
  · rw [if_neg hv] at h; cases h; exact ⟨Nat.le_of_not_lt hv, rfl⟩

theorem encodeVliLoop_length_le : ∀ (fuel v : Nat), (encodeVliLoop fuel v).length ≤ fuel
  | 0, _ => Nat.le_refl 0
  | fuel + 1, v => by
    rw [encodeVliLoop_succ]
    split
    · exact Nat.succ_le_succ (Nat.zero_le fuel)
    · exact Nat.succ_le_succ (encodeVliLoop_length_le fuel (v / 128))

theorem encVbi_length (v : Nat) :
    (Spec.encVbi v).length = if v < 128 then 1 else if v < 16384 then 2 else if v < 2097152 then 3 else 4 := by
  unfold Spec.encVbi
  simp only [apply_ite List.length, List.length_cons, List.length_nil]

/-- `compute_variable_length_integer_encode_size` is the number of bytes `encode_vli` writes -/
theorem vliSize_eq_length (v : Nat) (h : v ≤ maxVli) : vliSize v = some (Spec.encVbi v).length := by
  have h4 : v < 268435456 := Nat.lt_succ_of_le h
  rw [encVbi_length]
  unfold vliSize
  simp only [if_pos h4, apply_ite some]

theorem vliSize_none_iff (v : Nat) : vliSize v = none ↔ v > maxVli := by
  constructor
  · intro hn
    apply Nat.lt_of_not_le
    intro hle
    rw [vliSize_eq_length v hle] at hn
    cases hn
  · intro hgt
    unfold maxVli at hgt
    unfold vliSize
    rw [if_neg (by omega), if_neg (by omega), if_neg (by omega), if_neg (by omega)]

theorem decodeVliLoop_final (fuel acc m v : Nat) (rest : Bytes) (h : v < 128) :
    decodeVliLoop (fuel + 1) acc m ([u8 v] ++ rest) = .value (acc + v * m) rest := by
  rw [List.singleton_append, decodeVliLoop_cons, u8_toNat, Nat.mod_eq_of_lt (Nat.lt_trans h (by decide)), if_pos h]

/-- what `decode_vli`'s loop makes of the output of `encode_vli`'s loop, whatever the accumulator, the multiplier
    and the bytes that follow: the two loops undo each other round by round -/
theorem decodeVliLoop_encodeVliLoop (rest : Bytes) (fuel : Nat) : ∀ (v acc m : Nat), v < 128 ^ (fuel + 1) →
    decodeVliLoop (fuel + 1) acc m (encodeVliLoop (fuel + 1) v ++ rest) = .value (acc + v * m) rest := by
  induction fuel with
  | zero =>
    intro v acc m hv
    rw [encodeVliLoop_succ, if_pos hv]
    exact decodeVliLoop_final 0 acc m v rest hv
  | succ fuel ih =>
    intro v acc m hv
    rw [encodeVliLoop_succ]
    by_cases h : v < 128
    · rw [if_pos h]
      exact decodeVliLoop_final _ acc m v rest h
    · have hdiv : v / 128 < 128 ^ (fuel + 1) := Nat.div_lt_of_lt_mul (by rw [Nat.mul_comm]; exact hv)
      rw [if_neg h, List.cons_append, decodeVliLoop_cons, u8_cont_toNat,
        if_neg (Nat.not_lt.2 (Nat.le_add_left 128 _)), Nat.add_sub_cancel, ih (v / 128) _ _ hdiv, Nat.add_assoc,
        Nat.mul_comm m 128, ← Nat.mul_assoc, ← Nat.add_mul, Nat.mod_add_div']

/-- round trip through the code's own decoder (`decode_vli`), with any bytes following -/
theorem decodeVli_encVbi (v : Nat) (rest : Bytes) (h : v ≤ maxVli) :
    decodeVli (Spec.encVbi v ++ rest) = .value v rest := by
  unfold decodeVli
  rw [← encodeVliLoop_eq_spec v h, decodeVliLoop_encodeVliLoop rest 3 v 0 1 (Nat.lt_succ_of_le h), Nat.zero_add,
    Nat.mul_one]

/-- The standard's decoder and the code's read the same value off the same bytes and leave the same rest; what the
    code reports as insufficient or malformed the standard does not decode. -/
theorem decVbi_eq_decodeVli : ∀ (bs : Bytes),
    Spec.decVbi bs = (match decodeVli bs with | .value v r => some (v, r) | _ => none)
  | [] => rfl
  | a :: r => by
    unfold decodeVli Spec.decVbi
    dsimp only
    rw [decodeVliLoop_cons]
    by_cases ha : a.toNat < 128
    · rw [if_pos ha, if_pos ha, Nat.zero_add, Nat.mul_one]
    · rw [if_neg ha, if_neg ha]
      cases r with
      | nil => rfl
      | cons b r =>
        dsimp only
        rw [decodeVliLoop_cons]
        by_cases hb : b.toNat < 128
        · rw [if_pos hb, if_pos hb, Nat.zero_add, Nat.mul_one]
        · rw [if_neg hb, if_neg hb]
          cases r with
          | nil => rfl
          | cons c r =>
            dsimp only
            rw [decodeVliLoop_cons]
            by_cases hc : c.toNat < 128
            · rw [if_pos hc, if_pos hc, Nat.zero_add, Nat.mul_one]
            · rw [if_neg hc, if_neg hc]
              cases r with
              | nil => rfl
              | cons d r =>
                dsimp only
                rw [decodeVliLoop_cons]
                by_cases hd : d.toNat < 128
                · rw [if_pos hd, if_pos hd, Nat.zero_add, Nat.mul_one]
                · rw [if_neg hd, if_neg hd]; rfl

theorem specDecVbi_encVbi (v : Nat) (rest : Bytes) (h : v ≤ maxVli) :
    Spec.decVbi (Spec.encVbi v ++ rest) = some (v, rest) := by
  rw [decVbi_eq_decodeVli, decodeVli_encVbi v rest h]

end GV
