/-
  Proofs/Lengths.lean — the length bookkeeping of the packet writers, piece by piece: the number of bytes each
  group of steps writes is the summand the length functions count for it.  Props/C02.lean assembles these into
  the Remaining Length and Property Length of whole packets.
-/
import GV.Proofs.Encoder
namespace GV

/-- bytes a step writes (a VLI out of range writes nothing: the encoder fails there) -/
def stepLen : Step → Nat
  | .u8 _ => 1
  | .u16 _ => 2
  | .u32 _ => 4
  | .vli v => (vliSize v).getD 0
  | .slice b => b.length

def stepsLen (l : List Step) : Nat := (l.map stepLen).sum

@[simp] theorem stepsLen_nil : stepsLen [] = 0 := rfl
@[simp] theorem stepsLen_cons (s : Step) (l : List Step) : stepsLen (s :: l) = stepLen s + stepsLen l := by
  simp [stepsLen]
@[simp] theorem stepsLen_append (a b : List Step) : stepsLen (a ++ b) = stepsLen a + stepsLen b := by
  simp [stepsLen]

theorem vliSize_of_encodeVli (v : Nat) (bs : Bytes) (h : encodeVli v = some bs) : vliSize v = some bs.length := by
  have hle : v ≤ maxVli := (encodeVli_some h).1
  rw [encodeVli_eq_spec v hle] at h
  cases h
  exact vliSize_eq_length v hle

theorem atomBytes_length (s : Step) (bs : Bytes) (h : atomBytes s = some bs) : bs.length = stepLen s := by
  cases s with
  | u8 v => cases h; rfl
  | u16 v => cases h; rfl
  | u32 v => cases h; rfl
  | vli v => simp only [atomBytes] at h; simp [stepLen, vliSize_of_encodeVli v bs h]
  | slice b => cases h; rfl

theorem flattenSteps_length : ∀ (l : List Step) (bs : Bytes), flattenSteps l = some bs → bs.length = stepsLen l
  | [], _, h => by cases h; rfl
  | s :: rest, _, h => by
    obtain ⟨a, b, ha, hb, rfl⟩ := flattenSteps_cons_some h
    rw [List.length_append, atomBytes_length s a ha, flattenSteps_length rest b hb, stepsLen_cons]

/-! ### the helpers' lengths -/

theorem stOptNum_u8_len (k : Nat) (o : Option Nat) : stepsLen (stOptNum .u8 k o) = optLen 2 o := by
  cases o <;> simp [stOptNum, optLen, stepLen]
theorem stOptNum_u16_len (k : Nat) (o : Option Nat) : stepsLen (stOptNum .u16 k o) = optLen 3 o := by
  cases o <;> simp [stOptNum, optLen, stepLen]
theorem stOptNum_u32_len (k : Nat) (o : Option Nat) : stepsLen (stOptNum .u32 k o) = optLen 5 o := by
  cases o <;> simp [stOptNum, optLen, stepLen]
theorem stOptNum_vli_len (k : Nat) (o : Option Nat) (n : Nat) (h : optVliPropLen o = some n) : stepsLen (stOptNum .vli k o) = n := by
  cases o with
  | none => cases h; rfl
  | some v =>
    obtain ⟨s, hv, rfl⟩ := Option.map_eq_some_iff.mp h
    show 1 + ((vliSize v).getD 0 + 0) = s + 1
    rw [hv, Option.getD_some]
    omega
theorem stOptBytesProp_len (k : Nat) (o : Option Bytes) : stepsLen (stOptBytesProp k o) = optBytesPropLen o := by
  cases o with
  | none => rfl
  | some b => show 1 + (2 + (b.length + 0)) = 3 + b.length; omega
theorem stOptBool_len (k : Nat) (o : Option Bool) : stepsLen (stOptBool k o) = optLen 2 o := by
  cases o <;> simp [stOptBool, optLen, stepLen]
theorem stLenOptBytes_len (o : Option Bytes) : stepsLen (stLenOptBytes o) = optBytesLen o := by
  cases o <;> simp [stLenOptBytes, optBytesLen, stepLen]
theorem stLenBytes_len (b : Bytes) : stepsLen (stLenBytes b) = 2 + b.length := by
  simp [stLenBytes, stepLen]

/-- The length loops of encode.rs against the step writers. `f` is the body of such a loop as the model folds it, taking
    the count so far to the next (`acc + 5 + p.name.length + p.value.length` in `userPropsLen`; a function of the count
    because the bodies add from the left), `g x` are the steps written for the element `x`, and `k` is what the caller
    counts per element outside the loop: `hg` says that the steps of one element write `k` bytes more than the body adds. -/
theorem stepsLen_flatMap {α : Type} (g : α → List Step) (k : Nat) (f : Nat → α → Nat)
    (hg : ∀ n x, n + stepsLen (g x) = k + f n x) (l : List α) :
    stepsLen (l.flatMap g) = l.length * k + l.foldl f 0 := by
  have shift : ∀ (l : List α) (n : Nat), l.foldl f n = n + l.foldl f 0 := by
    intro l
    induction l with
    | nil => intro n; rfl
    | cons x r ih =>
      intro n
      have h1 := hg n x
      have h0 := hg 0 x
      rw [List.foldl_cons, List.foldl_cons, ih (f n x), ih (f 0 x)]
      omega
  induction l with
  | nil => exact (Nat.zero_mul k).symm ▸ rfl
  | cons x r ih =>
    have h0 := hg 0 x
    rw [List.flatMap_cons, stepsLen_append, ih, List.foldl_cons, shift r (f 0 x), List.length_cons, Nat.succ_mul]
    omega

theorem stUserProps_len (ups : UserProps) : stepsLen (stUserProps ups) = userPropsLen ups := by
  cases ups with
  | none => rfl
  | some ps =>
    refine (stepsLen_flatMap stUserProp 0 _ (fun a p => ?_) ps).trans (by rw [Nat.mul_zero, Nat.zero_add]; rfl)
    simp only [stUserProp, stepsLen_cons, stepsLen_nil, stepLen]
    omega

theorem subIds_foldl_none (ids : List Nat) : ids.foldl subIdStep none = none := by
  induction ids with
  | nil => rfl
  | cons v r ih => exact ih

/-- the loop over the subscription identifiers, from any count so far -/
theorem subIds_foldl_len (ids : List Nat) : ∀ (acc n : Nat), ids.foldl subIdStep (some acc) = some n →
    acc + stepsLen (ids.flatMap fun v => [Step.u8 11, .vli v]) = n := by
  induction ids with
  | nil => intro acc n h; cases h; rfl
  | cons v r ih =>
    intro acc n h
    rw [List.foldl_cons] at h
    cases hv : vliSize v with
    | none =>
      rw [show subIdStep (some acc) v = none by unfold subIdStep; rw [hv], subIds_foldl_none] at h
      cases h
    | some s =>
      rw [show subIdStep (some acc) v = some (acc + 1 + s) by unfold subIdStep; rw [hv]] at h
      have := ih _ n h
      simp only [List.flatMap_cons, stepsLen_append, stepsLen_cons, stepsLen_nil, stepLen, hv, Option.getD_some]
      omega

theorem stSubIds_len (ids : Option (List Nat)) (n : Nat) (h : subIdsLen ids = some n) : stepsLen (stSubIds ids) = n := by
  cases ids with
  | none => cases h; rfl
  | some l => exact (Nat.zero_add _).symm.trans (subIds_foldl_len l 0 n h)

/-! ### PUBLISH -/

def publishPre (p : Publish) (r : Resolution) : List Step :=
  (if r.skipTopic then [Step.u16 0] else stLenBytes p.topic) ++ (if p.qos ≠ 0 then [Step.u16 p.packetId] else [])
def publishProps (p : Publish) (r : Resolution) : List Step :=
  stOptNum .u8 1 p.payloadFormat ++ stOptNum .u32 2 p.messageExpiry ++ stOptNum .u16 35 r.alias
    ++ stOptBytesProp 8 p.responseTopic ++ stOptBytesProp 9 p.correlationData ++ stSubIds p.subscriptionIds
    ++ stOptBytesProp 3 p.contentType ++ stUserProps p.userProps
def payloadSteps (p : Publish) : List Step := match p.payload with | none => [] | some b => [Step.slice b]
def payloadLen (p : Publish) : Nat := match p.payload with | none => 0 | some b => b.length

theorem payloadSteps_len (p : Publish) : stepsLen (payloadSteps p) = payloadLen p := by
  unfold payloadSteps payloadLen; cases p.payload <;> simp [stepLen]

theorem publishPre_len (p : Publish) (r : Resolution) :
    stepsLen (publishPre p r) = 2 + (if r.skipTopic then 0 else p.topic.length) + (if p.qos ≠ 0 then 2 else 0) := by
  unfold publishPre
  rw [stepsLen_append]
  have h1 : stepsLen (if r.skipTopic then [Step.u16 0] else stLenBytes p.topic) = 2 + (if r.skipTopic then 0 else p.topic.length) := by
    split <;> simp [stLenBytes, stepLen]
  have h2 : stepsLen (if p.qos ≠ 0 then [Step.u16 p.packetId] else []) = (if p.qos ≠ 0 then 2 else 0) := by
    split <;> simp [stepLen]
  rw [h1, h2]

theorem publishProps_len (p : Publish) (r : Resolution) (sidLen : Nat) (hsid : subIdsLen p.subscriptionIds = some sidLen) :
    stepsLen (publishProps p r) = userPropsLen p.userProps + optLen 2 p.payloadFormat + optLen 5 p.messageExpiry
      + optLen 3 r.alias + optBytesPropLen p.contentType + optBytesPropLen p.responseTopic
      + optBytesPropLen p.correlationData + sidLen := by
  unfold publishProps
  simp only [stepsLen_append, stOptNum_u8_len, stOptNum_u32_len, stOptNum_u16_len, stOptBytesProp_len,
    stSubIds_len _ _ hsid, stUserProps_len]
  omega

theorem publishSteps5_shape (p : Publish) (r : Resolution) (rl pl : Nat) (h : publishLengths5 p r = some (rl, pl)) :
    publishSteps5 p r = some ([Step.u8 (publishFirstByte p), .vli rl] ++ publishPre p r ++ [Step.vli pl] ++ publishProps p r ++ payloadSteps p) := by
  simp only [publishSteps5, h, publishPre, publishProps, payloadSteps, List.append_assoc]
  cases p.payload <;> rfl

/-! ### SUBSCRIBE / UNSUBSCRIBE -/

theorem unsub_filters_len (l : List Bytes) : stepsLen (l.flatMap stLenBytes) = l.length * 2 + l.foldl (fun acc x => acc + x.length) 0 :=
  stepsLen_flatMap stLenBytes 2 _ (fun a x => by rw [stLenBytes_len]; omega) l

theorem sub_entries_len (l : List Subscription) (opt : Subscription → Nat) :
    stepsLen (l.flatMap (fun s => stLenBytes s.topicFilter ++ [Step.u8 (opt s)])) =
      l.length * 3 + l.foldl (fun acc x => acc + x.topicFilter.length) 0 :=
  stepsLen_flatMap _ 3 _ (fun a x => by rw [stepsLen_append, stLenBytes_len]; show _ + (_ + (1 + 0)) = _; omega) l

/-! ### CONNECT -/

theorem credSteps_len (p : Connect) : stepsLen (credSteps p) = credLen p := by
  have one : ∀ o : Option Bytes,
      stepsLen (match o with | none => [] | some u => stLenBytes u) = (match o with | none => 0 | some u => 2 + u.length)
    | none => rfl
    | some u => stLenBytes_len u
  unfold credSteps credLen
  rw [stepsLen_append]
  congr 1
  · exact one p.username
  · exact one p.password

theorem connectPropSteps_len (p : Connect) : stepsLen (connectPropSteps p) = connectPropLen p := by
  simp only [connectPropSteps, connectPropLen, stepsLen_append, stOptNum_u32_len, stOptNum_u16_len, stOptBool_len,
    stOptBytesProp_len, stUserProps_len]
  omega

theorem willSteps_len (p : Connect) (wlen wpl : Nat) (h : willPart p = some (wlen, wpl)) : stepsLen (willSteps p wpl) = wlen := by
  unfold willPart at h
  unfold willSteps
  cases hw : p.will with
  | none => rw [hw] at h; cases h; rfl
  | some w =>
    rw [hw] at h
    dsimp only at h ⊢
    cases hws : vliSize (willPropLen p w) with
    | none => rw [hws] at h; cases h
    | some ws =>
      rw [hws] at h
      cases h
      simp only [stepsLen_append, stepsLen_cons, stepsLen_nil, stOptNum_u32_len, stOptNum_u8_len, stOptBytesProp_len,
        stUserProps_len, stLenBytes_len, stLenOptBytes_len, stepLen, hws, Option.getD_some]
      unfold willPropLen
      omega

end GV
