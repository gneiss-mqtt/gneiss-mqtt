/- Proofs/Validate.lean — the validators' `Except` plumbing against the Boolean specs; lengths and verdicts of SUBSCRIBE and
   UNSUBSCRIBE packets that end in `n` equal entries. -/
import GV.Model.Validate
import GV.Spec.Validity
namespace GV

theorem okIf_ok (b : Bool) : okIf b = .ok () ↔ b = true := by
  unfold okIf; cases b <;> simp

theorem bind_ok_iff (a : VRes) (f : Unit → VRes) : (a >>= f) = .ok () ↔ a = .ok () ∧ f () = .ok () := by
  cases a with
  | error e => simp [bind, Except.bind]
  | ok u => simp [bind, Except.bind]

theorem vOptLen_ok (o : Option Bytes) : vOptLen o = .ok () ↔ Spec.optOk o = true := by
  cases o <;> simp [vOptLen, Spec.optOk, Spec.strOk, okIf_ok]

theorem strFieldOk_eq (b : Bytes) : strFieldOk b = Spec.utf8Ok b := rfl

theorem vOptStr_ok (o : Option Bytes) : vOptStr o = .ok () ↔ Spec.optStrOk o = true := by
  cases o <;> simp [vOptStr, Spec.optStrOk, strFieldOk_eq, okIf_ok]

theorem vUserProps_ok (u : UserProps) : vUserProps u = .ok () ↔ Spec.upsOk u = true := by
  cases u <;> simp [vUserProps, Spec.upsOk, strFieldOk_eq, okIf_ok]

theorem isValidTopic_eq (t : Bytes) : isValidTopic t = Spec.topicNameValid t := by
  simp [isValidTopic, Spec.topicNameValid, Spec.hasWildChar, Bool.and_assoc]

/-! ### subscriptions that are never materialised (`padsubs=<n>x<len>`) -/

theorem foldl_add_eq_sum {α} (f : α → Nat) (l : List α) : l.foldl (fun acc x => acc + f x) 0 = (l.map f).sum := by
  rw [List.sum_eq_foldl, List.foldl_map]

/-- the size of a list of entries, each `k` bytes and a field of `f` bytes, behind `c` bytes: `n` more entries `x` add
    `n * (k + f x)` -/
theorem padded_size {α} (f : α → Nat) (c k : Nat) (l : List α) (n : Nat) (x : α) :
    c + (l ++ List.replicate n x).length * k + (l ++ List.replicate n x).foldl (fun acc y => acc + f y) 0 =
      c + l.length * k + l.foldl (fun acc y => acc + f y) 0 + n * (k + f x) := by
  rw [foldl_add_eq_sum, foldl_add_eq_sum, List.map_append, List.sum_append_nat, List.map_replicate, List.sum_replicate_nat,
    List.length_append, List.length_replicate, Nat.add_mul, Nat.mul_add]
  omega

/-- the encoded lengths of a SUBSCRIBE with `n` more subscriptions whose filters have `len` bytes are those of the SUBSCRIBE
    without them plus `n * (3 + len)` (what lets the correspondence check feed SUBSCRIBEs of 4 GiB and more as two numbers) -/
theorem subscribeLengths5_pad (p : Subscribe) (n : Nat) (x : Subscription) :
    subscribeLengths5 { p with subscriptions := p.subscriptions ++ List.replicate n x } =
      (subscribeLengths5 p).map (fun l => (l.1 + n * (3 + x.topicFilter.length), l.2)) := by
  unfold subscribeLengths5
  cases optVliPropLen p.subscriptionId with
  | none => rfl
  | some sid =>
    cases hs : vliSize (userPropsLen p.userProps + sid) with
    | none => simp only [hs]; rfl
    | some sz =>
      simp only [hs, Option.map_some]
      rw [padded_size (fun x : Subscription => x.topicFilter.length)]

theorem unsubscribeLengths5_pad (p : Unsubscribe) (n : Nat) (f : Bytes) :
    unsubscribeLengths5 { p with topicFilters := p.topicFilters ++ List.replicate n f } =
      (unsubscribeLengths5 p).map (fun l => (l.1 + n * (2 + f.length), l.2)) := by
  unfold unsubscribeLengths5
  cases hs : vliSize (userPropsLen p.userProps) with
  | none => simp only [hs]; rfl
  | some sz =>
    simp only [hs, Option.map_some]
    rw [padded_size (fun x : Bytes => x.length)]

theorem subscribeLength311_pad (p : Subscribe) (n : Nat) (x : Subscription) :
    subscribeLength311 { p with subscriptions := p.subscriptions ++ List.replicate n x } = subscribeLength311 p + n * (3 + x.topicFilter.length) :=
  padded_size (fun x : Subscription => x.topicFilter.length) 2 3 p.subscriptions n x

theorem unsubscribeLength311_pad (p : Unsubscribe) (n : Nat) (f : Bytes) :
    unsubscribeLength311 { p with topicFilters := p.topicFilters ++ List.replicate n f } = unsubscribeLength311 p + n * (2 + f.length) :=
  padded_size (fun x : Bytes => x.length) 2 2 p.topicFilters n f

theorem all_append_replicate {α} (q : α → Bool) (l : List α) (n : Nat) (x : α) (hn : 0 < n) :
    (l ++ List.replicate n x).all q = (l ++ [x]).all q := by
  simp only [List.all_append, List.all_replicate, List.all_cons, List.all_nil, Bool.and_true]
  have : n ≠ 0 := by omega
  simp [this]

/-- what the driver evaluates for a padded SUBSCRIBE is the validator on the padded packet -/
theorem vSubscribeInternal_pad (p : Subscribe) (st : Settings) (n len : Nat) (hn : 0 < n) :
    vSubscribeInternal { p with subscriptions := p.subscriptions ++ List.replicate n (padSub len) } (some st) =
      vSubscribeInternalWith ((subscribeLengths5 p).map (fun l => (l.1 + n * (3 + len), l.2)))
        { p with subscriptions := p.subscriptions ++ [padSub len] } (some st) := by
  unfold vSubscribeInternal vSubscribeInternalWith
  rw [subscribeLengths5_pad]
  simp only [all_append_replicate _ _ n _ hn]
  simp [padSub]

theorem vUnsubscribeInternal_pad (p : Unsubscribe) (st : Settings) (n len : Nat) (hn : 0 < n) :
    vUnsubscribeInternal { p with topicFilters := p.topicFilters ++ List.replicate n (List.replicate len 97) } (some st) =
      vUnsubscribeInternalWith ((unsubscribeLengths5 p).map (fun l => (l.1 + n * (2 + len), l.2)))
        { p with topicFilters := p.topicFilters ++ [List.replicate len 97] } (some st) := by
  unfold vUnsubscribeInternal vUnsubscribeInternalWith
  rw [unsubscribeLengths5_pad]
  simp only [all_append_replicate _ _ n _ hn]
  simp

end GV
