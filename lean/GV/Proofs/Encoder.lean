/-
  Proofs/Encoder.lean — the resumable encoder (`Encoder::encode`): whatever buffer space is offered
  (at least 4 bytes each time), the chunks it produces concatenate to the same byte string, no chunk
  exceeds the space offered, and the run terminates.
-/
import GV.Model.Encode
import GV.Proofs.Vli
namespace GV

theorem atomBytes_length_le (s : Step) (bs : Bytes) (hs : ∀ b, s ≠ .slice b) (h : atomBytes s = some bs) :
    bs.length ≤ 4 := by
  cases s with
  | u8 v => cases h; exact (by decide : 1 ≤ 4)
  | u16 v => cases h; exact (by decide : 2 ≤ 4)
  | u32 v => cases h; exact Nat.le_refl 4
  | vli v =>
    rw [(encodeVli_some h).2]
    exact encodeVliLoop_length_le 4 v
  | slice b => exact absurd rfl (hs b)

theorem atomBytes_ne_nil (s : Step) (hs : s ≠ .slice []) (a : Bytes) (h : atomBytes s = some a) : a ≠ [] := by
  cases s with
  | u8 v => cases h; exact List.cons_ne_nil _ _
  | u16 v => cases h; exact List.cons_ne_nil _ _
  | u32 v => cases h; exact List.cons_ne_nil _ _
  | vli v =>
    rw [(encodeVli_some h).2, encodeVliLoop_succ]
    split
    · exact List.cons_ne_nil _ _
    · exact List.cons_ne_nil _ _
  | slice b => cases h; exact fun hb => hs (congrArg Step.slice hb)

/-! ### `flattenSteps` and `encodeCall`, clause by clause -/

theorem flattenSteps_cons {s : Step} {rest : List Step} {a b : Bytes} (ha : atomBytes s = some a)
    (hb : flattenSteps rest = some b) : flattenSteps (s :: rest) = some (a ++ b) := by
  simp only [flattenSteps, ha, hb]

theorem flattenSteps_cons_some {s : Step} {rest : List Step} {bs : Bytes} (h : flattenSteps (s :: rest) = some bs) :
    ∃ a b, atomBytes s = some a ∧ flattenSteps rest = some b ∧ bs = a ++ b := by
  unfold flattenSteps at h
  split at h
  · next a b ha hb => exact ⟨a, b, ha, hb, (Option.some.inj h).symm⟩
  · cases h

theorem encodeCall_full (s : Step) (rest : List Step) {free : Nat} (hf : free < 4) :
    encodeCall (s :: rest) free = ([], dropEmptySlices (s :: rest), false) := by
  unfold encodeCall
  exact if_pos hf

/-- With room for a step, `process_encoding_step` either writes the whole step and goes on (every step but a
    slice is at most 4 bytes long), or writes the part of a slice that fits and stops, or fails on a VLI. -/
theorem encodeCall_cons (s : Step) (rest : List Step) {free : Nat} (hf : 4 ≤ free) :
    (∃ a, atomBytes s = some a ∧ a.length ≤ free ∧
      encodeCall (s :: rest) free = (a ++ (encodeCall rest (free - a.length)).1,
        (encodeCall rest (free - a.length)).2.1, (encodeCall rest (free - a.length)).2.2)) ∨
    (∃ b, s = .slice b ∧ free < b.length ∧
      encodeCall (s :: rest) free = (b.take free, .slice (b.drop free) :: rest, false)) ∨
    (atomBytes s = none ∧ encodeCall (s :: rest) free = ([], rest, true)) := by
  have hf' := Nat.not_lt.2 hf
  by_cases hs : ∃ b, s = .slice b
  · obtain ⟨b, rfl⟩ := hs
    rw [encodeCall.eq_2, if_neg hf']
    cases hd : b.drop free with
    | nil => exact .inl ⟨b, rfl, List.drop_eq_nil_iff.1 hd, rfl⟩
    | cons x xs =>
      refine .inr (.inl ⟨b, rfl, Nat.lt_of_not_le fun hle => ?_, by rw [hd]⟩)
      rw [List.drop_eq_nil_iff.2 hle] at hd
      cases hd
  · have hs' : ∀ b, s = .slice b → False := fun b hb => hs ⟨b, hb⟩
    rw [encodeCall.eq_3 _ _ _ hs', if_neg hf']
    cases ha : atomBytes s with
    | none => exact .inr (.inr ⟨rfl, rfl⟩)
    | some a => exact .inl ⟨a, rfl, Nat.le_trans (atomBytes_length_le s a hs' ha) hf, rfl⟩

theorem flattenSteps_dropEmptySlices : ∀ (l : List Step), flattenSteps (dropEmptySlices l) = flattenSteps l := by
  intro l
  induction l with
  | nil => rfl
  | cons s rest ih =>
    cases s with
    | slice b =>
      cases b with
      | nil =>
        show flattenSteps (dropEmptySlices rest) = flattenSteps (Step.slice [] :: rest)
        rw [ih]
        simp only [flattenSteps, atomBytes]
        cases flattenSteps rest <;> rfl
      | cons x xs => rfl
    | _ => rfl

theorem encodeCall_flatten (steps : List Step) (free : Nat) (bs : Bytes)
    (h : flattenSteps steps = some bs) :
    ∃ tail, (encodeCall steps free).2.2 = false ∧
      flattenSteps (encodeCall steps free).2.1 = some tail ∧
      bs = (encodeCall steps free).1 ++ tail := by
  induction steps generalizing free bs with
  | nil => exact ⟨[], rfl, rfl, (Option.some.inj h).symm⟩
  | cons s rest ih =>
    obtain ⟨a, rb, ha, hr, rfl⟩ := flattenSteps_cons_some h
    by_cases hf : free < 4
    · rw [encodeCall_full s rest hf]
      exact ⟨a ++ rb, rfl, (flattenSteps_dropEmptySlices _).trans h, rfl⟩
    · rcases encodeCall_cons s rest (Nat.le_of_not_lt hf) with ⟨a', ha', -, e⟩ | ⟨b, rfl, -, e⟩ | ⟨hn, -⟩
      · cases ha.symm.trans ha'
        obtain ⟨tail, h1, h2, h3⟩ := ih (free - a.length) rb hr
        rw [e]
        exact ⟨tail, h1, h2, by rw [h3, List.append_assoc]⟩
      · obtain rfl : b = a := Option.some.inj ha
        rw [e]
        exact ⟨b.drop free ++ rb, rfl, flattenSteps_cons rfl hr, by rw [← List.append_assoc, List.take_append_drop]⟩
      · cases ha.symm.trans hn

theorem encodeCall_bound (steps : List Step) (free : Nat) :
    (encodeCall steps free).1.length ≤ free := by
  induction steps generalizing free with
  | nil => exact Nat.zero_le free
  | cons s rest ih =>
    by_cases hf : free < 4
    · rw [encodeCall_full s rest hf]
      exact Nat.zero_le free
    · rcases encodeCall_cons s rest (Nat.le_of_not_lt hf) with ⟨a, -, hle, e⟩ | ⟨b, -, -, e⟩ | ⟨-, e⟩
      · rw [e, List.length_append]
        exact Nat.add_le_of_le_sub' hle (ih _)
      · rw [e]
        exact List.length_take_le free b
      · rw [e]
        exact Nat.zero_le free

/-- termination measure: one unit per step plus one per byte still to be written -/
def stepWeight : Step → Nat
  | .slice b => 1 + b.length
  | _ => 1

def stepsWeight (steps : List Step) : Nat := (steps.map stepWeight).sum

theorem stepsWeight_cons (s : Step) (rest : List Step) :
    stepsWeight (s :: rest) = stepWeight s + stepsWeight rest := rfl

theorem stepWeight_pos (s : Step) : 0 < stepWeight s := by
  cases s with
  | slice b => exact Nat.lt_of_lt_of_le Nat.one_pos (Nat.le_add_right 1 _)
  | _ => exact Nat.one_pos

theorem stepsWeight_dropEmptySlices : ∀ (l : List Step), stepsWeight (dropEmptySlices l) ≤ stepsWeight l := by
  intro l
  induction l with
  | nil => exact Nat.le_refl _
  | cons s rest ih =>
    cases s with
    | slice b =>
      cases b with
      | nil => exact Nat.le_trans ih (Nat.le_add_left _ _)
      | cons x xs => exact Nat.le_refl _
    | _ => exact Nat.le_refl _

theorem encodeCall_weight_le (steps : List Step) (free : Nat) :
    stepsWeight (encodeCall steps free).2.1 ≤ stepsWeight steps := by
  induction steps generalizing free with
  | nil => exact Nat.le_refl _
  | cons s rest ih =>
    by_cases hf : free < 4
    · rw [encodeCall_full s rest hf]
      exact stepsWeight_dropEmptySlices _
    · rw [stepsWeight_cons]
      rcases encodeCall_cons s rest (Nat.le_of_not_lt hf) with ⟨a, -, -, e⟩ | ⟨b, rfl, -, e⟩ | ⟨-, e⟩
      · rw [e]
        exact Nat.le_trans (ih _) (Nat.le_add_left _ _)
      · rw [e, stepsWeight_cons]
        exact Nat.add_le_add_right (Nat.add_le_add_left (by rw [List.length_drop]; exact Nat.sub_le _ _) 1) _
      · rw [e]
        exact Nat.le_add_left _ _

theorem encodeCall_progress (steps : List Step) (free : Nat) (hf : 4 ≤ free) (hne : steps ≠ []) :
    stepsWeight (encodeCall steps free).2.1 < stepsWeight steps := by
  cases steps with
  | nil => exact absurd rfl hne
  | cons s rest =>
    rw [stepsWeight_cons]
    have hpos := stepWeight_pos s
    rcases encodeCall_cons s rest hf with ⟨a, -, -, e⟩ | ⟨b, rfl, hlt, e⟩ | ⟨-, e⟩
    · rw [e]
      exact Nat.lt_of_le_of_lt (encodeCall_weight_le rest _) (Nat.lt_add_of_pos_left hpos)
    · simp only [e, stepsWeight_cons, stepWeight, List.length_drop]
      omega
    · rw [e]
      exact Nat.lt_add_of_pos_left hpos

/-- The whole run: for every sequence of buffers each offering at least 4 free bytes (any capacity,
    any prefill), the chunks concatenate to exactly `flattenSteps steps`, no call fails, and the run
    ends before the fuel does (the fuel is only a termination device: `stepsWeight steps + 1` is
    enough whatever the buffers are). -/
theorem encodeRun_correct (fuel : Nat) (steps : List Step) (caps : List (Nat × Nat)) (acc : List Bytes)
    (bs : Bytes) (h : flattenSteps steps = some bs) (hc : ∀ c ∈ caps, 4 ≤ capFree c)
    (hfuel : stepsWeight steps < fuel) :
    (encodeRun fuel steps caps acc).2 = false ∧
    (encodeRun fuel steps caps acc).1.flatten = acc.reverse.flatten ++ bs := by
  induction fuel generalizing steps caps acc bs with
  | zero => omega
  | succ fuel ih =>
    have hfree : 4 ≤ capFree (headCap caps) := by
      cases caps with
      | nil => decide
      | cons c cs => exact hc c List.mem_cons_self
    have hcaps' : ∀ c ∈ tailCaps caps, 4 ≤ capFree c := by
      intro c hmem
      cases caps with
      | nil => cases hmem
      | cons c0 cs =>
        cases cs with
        | nil => exact hc c hmem
        | cons c1 cs' => exact hc c (List.mem_cons_of_mem c0 hmem)
    obtain ⟨tail, h1, h2, h3⟩ := encodeCall_flatten steps (capFree (headCap caps)) bs h
    rw [encodeRun, if_neg (by rw [h1]; decide)]
    split
    · next hemp =>
      rw [List.isEmpty_iff.mp hemp] at h2
      cases h2
      simp [h3]
    · next hne =>
      have hsteps : steps ≠ [] := by
        intro he; subst he; exact hne rfl
      have hprog := encodeCall_progress steps _ hfree hsteps
      have := ih (encodeCall steps (capFree (headCap caps))).2.1 (tailCaps caps)
        ((encodeCall steps (capFree (headCap caps))).1 :: acc) tail h2 hcaps' (by omega)
      refine ⟨this.1, ?_⟩
      rw [this.2, h3]; simp

/-! ### a packet whose last byte has been written is complete -/

theorem dropEmptySlices_head : ∀ (l : List Step), dropEmptySlices l = [] ∨ ∃ s rest, dropEmptySlices l = s :: rest ∧ s ≠ .slice [] := by
  intro l
  induction l with
  | nil => exact .inl rfl
  | cons s rest ih =>
    cases s with
    | slice b =>
      cases b with
      | nil => exact ih
      | cons x xs => exact .inr ⟨_, _, rfl, fun h => by cases h⟩
    | _ => exact .inr ⟨_, _, rfl, fun h => by cases h⟩

theorem flattenSteps_cons_ne_nil (s : Step) (rest : List Step) (hs : s ≠ .slice []) : flattenSteps (s :: rest) ≠ some [] := by
  intro h
  obtain ⟨a, b, ha, -, hab⟩ := flattenSteps_cons_some h
  exact atomBytes_ne_nil s hs a ha (List.append_eq_nil_iff.1 hab.symm).1

/-- **What a call leaves behind still has a byte to emit**: when the steps that remain after `Encoder::encode` produce nothing
    more, there are none - the packet is reported complete by the very call that wrote its last byte (an empty payload or an
    empty string at the end of a packet needs no room in the buffer). -/
theorem encodeCall_rest_has_bytes : ∀ (steps : List Step) (free : Nat), (encodeCall steps free).2.2 = false →
    flattenSteps (encodeCall steps free).2.1 = some [] → (encodeCall steps free).2.1 = [] := by
  intro steps
  induction steps with
  | nil => intro free _ _; rfl
  | cons s rest ih =>
    intro free hok h
    by_cases hf : free < 4
    · rw [encodeCall_full s rest hf] at h ⊢
      rcases dropEmptySlices_head (s :: rest) with a | ⟨t, l, hl, ht⟩
      · exact a
      · rw [hl] at h
        exact absurd h (flattenSteps_cons_ne_nil t l ht)
    · rcases encodeCall_cons s rest (Nat.le_of_not_lt hf) with ⟨a, -, -, e⟩ | ⟨b, rfl, hlt, e⟩ | ⟨-, e⟩
      · rw [e] at hok h ⊢
        exact ih _ hok h
      · rw [e] at h
        exact absurd h (flattenSteps_cons_ne_nil _ _ fun hb =>
          Nat.not_le.2 hlt (List.drop_eq_nil_iff.1 (Step.slice.inj hb)))
      · rw [e] at hok
        cases hok

end GV
