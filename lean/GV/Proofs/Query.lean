/- Proofs/Query.lean — percent-encoding round trip and query-string splitting lemmas -/
import GV.Model.Aws
import GV.Spec.Query
namespace GV
open Spec

theorem unreserved_eq (b : UInt8) : unreserved b = isUnreserved b := rfl

/-- a Boolean predicate checked on the byte values below `N` holds for every byte below `N` -/
theorem forall_u8_lt (N : Nat) (p : UInt8 → Bool) (h : (List.range N).all (fun n => p (UInt8.ofNat n)) = true)
    (b : UInt8) (hb : b.toNat < N) : p b = true := by
  have := List.all_eq_true.mp h b.toNat (List.mem_range.mpr hb)
  rwa [UInt8.ofNat_toNat] at this

theorem hexVal_upHex (n : UInt8) (hn : n.toNat < 16) : hexVal (upHex n) = some n :=
  eq_of_beq (forall_u8_lt 16 (fun n => hexVal (upHex n) == some n) (by decide +kernel) n hn)

theorem toNat_div16_lt (b : UInt8) : (b / 16).toNat < 16 := by
  rw [UInt8.toNat_div]
  exact Nat.div_lt_of_lt_mul b.toNat_lt

theorem toNat_mod16_lt (b : UInt8) : (b % 16).toNat < 16 := by
  rw [UInt8.toNat_mod]
  exact Nat.mod_lt _ (by decide)

/-- the two nibbles of a byte decode back to it -/
theorem hex_round_trip (b : UInt8) :
    hexVal (upHex (b / 16)) = some (b / 16) ∧ hexVal (upHex (b % 16)) = some (b % 16) ∧ (b / 16) * 16 + b % 16 = b := by
  refine ⟨hexVal_upHex _ (toNat_div16_lt b), hexVal_upHex _ (toNat_mod16_lt b), ?_⟩
  apply UInt8.toNat_inj.mp
  rw [UInt8.toNat_add, UInt8.toNat_mul, UInt8.toNat_div, UInt8.toNat_mod]
  show (b.toNat / 16 * 16 % 256 + b.toNat % 16) % 256 = b.toNat
  rw [Nat.mod_eq_of_lt (Nat.lt_of_le_of_lt (Nat.div_mul_le_self b.toNat 16) b.toNat_lt), Nat.div_add_mod',
    Nat.mod_eq_of_lt b.toNat_lt]

theorem unreserved_ne_pct (b : UInt8) (h : isUnreserved b = true) : b ≠ 37 := by
  intro hb; subst hb; revert h; decide

theorem pctDecode_cons_unreserved (b : UInt8) (r : Bytes) (h : isUnreserved b = true) :
    pctDecode (b :: r) = (pctDecode r).map (b :: ·) := by
  have hb := unreserved_ne_pct b h
  rw [pctDecode]
  · simp [h]
  · intro h' l' r' heq; cases heq; exact absurd rfl hb

theorem pctDecode_pct (h l : UInt8) (r : Bytes) :
    pctDecode (37 :: h :: l :: r) = pctCombine (hexVal h) (hexVal l) (pctDecode r) := by
  simp only [pctDecode]

theorem pctDecode_pctEncode (s : Bytes) : pctDecode (pctEncode s) = some s := by
  induction s with
  | nil => rfl
  | cons b r ih =>
    unfold pctEncode
    by_cases hb : unreserved b = true
    · simp only [hb, ↓reduceIte]
      rw [pctDecode_cons_unreserved b _ (by rw [← unreserved_eq]; exact hb), ih]; rfl
    · simp only [hb, Bool.false_eq_true, ↓reduceIte]
      have ⟨h1, h2, h3⟩ := hex_round_trip b
      rw [pctDecode_pct, h1, h2, ih]
      simp [pctCombine, h3]

/-- bytes that may occur in a percent-encoded string -/
def safeByte (b : UInt8) : Bool := isUnreserved b || b == 37

theorem beq_false_of_safeByte (c : UInt8) (hc : safeByte c = false) (b : UInt8) (h : safeByte b = true) : (b == c) = false := by
  cases hb : b == c
  · rfl
  · rw [eq_of_beq hb, hc] at h; exact nomatch h

theorem u8_range_mono_right (lo hi hi' b : UInt8) (hh : hi ≤ hi') (h : (lo ≤ b && b ≤ hi) = true) : (lo ≤ b && b ≤ hi') = true := by
  rw [Bool.and_eq_true, decide_eq_true_eq, decide_eq_true_eq] at h ⊢
  exact ⟨h.1, UInt8.le_trans h.2 hh⟩

/-- hex digits are digits or letters -/
theorem hexVal_safe (b : UInt8) (h : (hexVal b).isSome = true) : safeByte b = true := by
  unfold hexVal at h
  unfold safeByte isUnreserved
  split at h
  · rename_i hc; rw [hc]; rfl
  · split at h
    · rename_i hc; rw [u8_range_mono_right 65 70 90 b (by decide) hc, Bool.or_true]; rfl
    · split at h
      · rename_i hc; rw [u8_range_mono_right 97 102 122 b (by decide) hc, Bool.or_true]; rfl
      · exact nomatch h

theorem pctCombine_eq_some {a b : Option UInt8} {c : Option Bytes} {r : Bytes} (h : pctCombine a b c = some r) :
    a.isSome = true ∧ b.isSome = true ∧ c.isSome = true :=
  match a, b, c, h with
  | some _, some _, some _, _ => ⟨rfl, rfl, rfl⟩

/-- whatever strict decoding accepts consists of safe bytes only -/
theorem pctDecode_safe (s r : Bytes) (h : pctDecode s = some r) : ∀ b ∈ s, safeByte b = true := by
  induction s using pctDecode.induct generalizing r with
  | case1 => intro b hb; cases hb
  | case2 x l rest ih =>  -- `%`, two more bytes, `rest`
    rw [pctDecode_pct] at h
    have ⟨h1, h2, h3⟩ := pctCombine_eq_some h
    obtain ⟨t, h3⟩ := Option.isSome_iff_exists.mp h3
    intro b hb
    simp only [List.mem_cons] at hb
    rcases hb with hb | hb | hb | hb
    · subst hb; rfl
    · subst hb; exact hexVal_safe _ h1
    · subst hb; exact hexVal_safe _ h2
    · exact ih t h3 b hb
  | case3 c rest hne hu ih =>  -- any other first byte `c`, unreserved
    rw [pctDecode.eq_3 _ _ hne, if_pos hu] at h
    obtain ⟨t, ht, _⟩ := Option.map_eq_some_iff.mp h
    intro b hb
    rcases List.mem_cons.mp hb with hb | hb
    · subst hb; unfold safeByte; rw [hu]; rfl
    · exact ih t ht b hb
  | case4 c rest hne hu =>  -- any other first byte, not unreserved: nothing decodes
    rw [pctDecode.eq_3 _ _ hne, if_neg hu] at h
    exact nomatch h

theorem pctEncode_safe (s : Bytes) : ∀ b ∈ pctEncode s, safeByte b = true :=
  pctDecode_safe (pctEncode s) s (pctDecode_pctEncode s)

theorem splitAll_append (x : Bytes) (hx : ∀ b ∈ x, (b == 38) = false) (rest : Bytes) :
    splitAll 38 (x ++ 38 :: rest) = x :: splitAll 38 rest := by
  induction x with
  | nil => simp [splitAll]
  | cons c r ih =>
    have hc := hx c (List.mem_cons_self ..)
    have hr : ∀ b ∈ r, (b == 38) = false := fun b hb => hx b (List.mem_cons_of_mem _ hb)
    simp only [List.cons_append, splitAll, hc, Bool.false_eq_true, ↓reduceIte, ih hr]

theorem splitAll_single (x : Bytes) (hx : ∀ b ∈ x, (b == 38) = false) : splitAll 38 x = [x] := by
  induction x with
  | nil => rfl
  | cons c r ih =>
    have hc := hx c (List.mem_cons_self ..)
    have hr : ∀ b ∈ r, (b == 38) = false := fun b hb => hx b (List.mem_cons_of_mem _ hb)
    simp only [splitAll, hc, Bool.false_eq_true, ↓reduceIte, ih hr]

theorem splitAll_joinAmp (segs : List Bytes) (hne : segs ≠ []) (h : ∀ s ∈ segs, ∀ b ∈ s, (b == 38) = false) :
    splitAll 38 (joinAmp segs) = segs := by
  induction segs with
  | nil => exact absurd rfl hne
  | cons x rest ih =>
    cases rest with
    | nil => simpa [joinAmp] using splitAll_single x (h x (List.mem_cons_self ..))
    | cons y r =>
      have := ih (by simp) (fun s hs => h s (List.mem_cons_of_mem _ hs))
      simp only [joinAmp]
      rw [splitAll_append x (h x (List.mem_cons_self ..)), this]

theorem splitFirst_append (k v : Bytes) (hk : ∀ b ∈ k, (b == 61) = false) :
    splitFirst 61 (k ++ 61 :: v) = some (k, v) := by
  induction k with
  | nil => simp [splitFirst]
  | cons c r ih =>
    have hc := hk c (List.mem_cons_self ..)
    have hr : ∀ b ∈ r, (b == 61) = false := fun b hb => hk b (List.mem_cons_of_mem _ hb)
    simp only [List.cons_append, splitFirst, hc, Bool.false_eq_true, ↓reduceIte, ih hr, Option.map_some]

theorem parsePair_ok (k v k' v' : Bytes) (hk : pctDecode k = some k') (hv : pctDecode v = some v') :
    parsePair (k ++ 61 :: v) = some (k', v') := by
  unfold parsePair
  rw [splitFirst_append k v (fun b hb => beq_false_of_safeByte 61 (by decide) b (pctDecode_safe k k' hk b hb))]
  simp [hk, hv]

theorem pair_no_amp (k v k' v' : Bytes) (hk : pctDecode k = some k') (hv : pctDecode v = some v') :
    ∀ b ∈ k ++ 61 :: v, (b == 38) = false := by
  intro b hb
  simp only [List.mem_append, List.mem_cons] at hb
  rcases hb with hb | hb | hb
  · exact beq_false_of_safeByte 38 (by decide) b (pctDecode_safe k k' hk b hb)
  · subst hb; rfl
  · exact beq_false_of_safeByte 38 (by decide) b (pctDecode_safe v v' hv b hb)

theorem pctEncode_id_of_unreserved (s : Bytes) (h : ∀ b ∈ s, unreserved b = true) : pctEncode s = s := by
  induction s with
  | nil => rfl
  | cons c r ih =>
    have hc := h c (List.mem_cons_self ..)
    simp only [pctEncode, hc, ↓reduceIte, ih (fun b hb => h b (List.mem_cons_of_mem _ hb))]

theorem hasPct_false_iff (s : Bytes) : hasPct s = false ↔ ∀ b ∈ s, b ≠ 37 := by
  unfold hasPct
  constructor
  · intro h b hb hb37; subst hb37
    rw [List.contains_iff_mem.mpr hb] at h
    cases h
  · intro h
    cases hc : s.contains 37 with
    | false => rfl
    | true => exact absurd rfl (h 37 (List.contains_iff_mem.mp hc))

/-- if the encoding of `s` contains no `%`, nothing was escaped: `s` is unreserved throughout -/
theorem unreserved_of_encode_no_pct (s : Bytes) (h : hasPct (pctEncode s) = false) : ∀ b ∈ s, unreserved b = true := by
  induction s with
  | nil => intro b hb; cases hb
  | cons c r ih =>
    rw [hasPct_false_iff] at h
    by_cases hc : unreserved c = true
    · intro b hb
      rcases List.mem_cons.mp hb with hb | hb
      · subst hb; exact hc
      · apply ih _ b hb
        rw [hasPct_false_iff]
        intro x hx
        apply h x
        simp only [pctEncode, hc, ↓reduceIte]
        exact List.mem_cons_of_mem _ hx
    · exfalso
      apply h 37 _ rfl
      simp only [pctEncode, hc, Bool.false_eq_true, ↓reduceIte]
      exact List.mem_cons_self ..

end GV
