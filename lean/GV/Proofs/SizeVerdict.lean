/-
  Proofs/SizeVerdict.lean — helper lemmas for the stream-level size verdict of Props/C03: a run of continuation
  bytes of a Remaining Length only extends the decoder's scratch buffer.
-/
import GV.Model.Decode
import GV.Proofs.DecodeSlice
import GV.Proofs.Vli
namespace GV

/-- continuation bytes only (bit 7 set) -/
def AllCont (bs : Bytes) : Prop := ∀ b ∈ bs, b.toNat / 128 ≠ 0

theorem AllCont.tail {b : UInt8} {bs : Bytes} (h : AllCont (b :: bs)) : AllCont bs :=
  fun x hx => h x (List.mem_cons_of_mem b hx)

theorem decodeVliLoop_allCont (fuel v m : Nat) (bs : Bytes) (h : AllCont bs) (hl : bs.length < fuel) :
    decodeVliLoop fuel v m bs = .insufficient := by
  induction bs generalizing fuel v m with
  | nil => cases fuel with
    | zero => cases hl
    | succ f => rfl
  | cons b r ih =>
    cases fuel with
    | zero => cases hl
    | succ f =>
      rw [decodeVliLoop, if_neg (h b List.mem_cons_self)]
      exact ih f _ _ h.tail (Nat.lt_of_succ_lt_succ hl)

/-- feeding continuation bytes of a length prefix only extends the scratch buffer -/
theorem feed_cont (cfg : DecodeCfg) (c : Bytes) : ∀ (d : Decoder) (tail : Bytes), d.state = .readLength → AllCont (d.scratch ++ c) →
    (d.scratch ++ c).length < 4 →
    feed cfg d (c ++ tail) = feed cfg { d with scratch := d.scratch ++ c } tail := by
  induction c with
  | nil => intro d tail _ _ _; rw [List.append_nil]; rfl
  | cons b r ih =>
    intro d tail hs hc hl
    rw [List.append_cons] at hc hl
    have hc1 : AllCont (d.scratch ++ [b]) := fun x hx => hc x (List.mem_append_left r hx)
    have hl1 : (d.scratch ++ [b]).length < 4 := by
      have := hl
      rw [List.length_append] at this
      exact Nat.lt_of_le_of_lt (Nat.le_add_right _ _) this
    have hv : decodeVli (d.scratch ++ [b]) = .insufficient := decodeVliLoop_allCont 4 0 1 _ hc1 hl1
    have hstep : stepByte cfg d b = ({ d with scratch := d.scratch ++ [b] }, [], none) := by
      rw [stepByte_readLength cfg d b hs, stepLength_incomplete cfg d b (fun _ _ h => nomatch hv.symm.trans h),
        if_neg (Nat.not_le.2 hl1)]
    rw [List.cons_append, feed_cons_ok cfg d _ b _ [] hstep, prependPackets_nil, ih { d with scratch := d.scratch ++ [b] } tail hs hc hl,
      List.append_assoc]
    rfl

/-- a fresh decoder fed the first byte and the continuation bytes of a length prefix holds them and waits for more -/
theorem feed_header (cfg : DecodeCfg) (fb : UInt8) (c tail : Bytes) (hc : AllCont c) (hl : c.length < 4) :
    feed cfg {} (fb :: (c ++ tail)) = feed cfg { state := .readLength, firstByte := fb, scratch := c } tail := by
  rw [feed_cons_ok cfg {} { state := .readLength, firstByte := fb, scratch := [] } fb _ [] rfl, prependPackets_nil]
  exact feed_cont cfg c _ tail rfl hc hl

/-- what `encode_vli`'s loop writes is a run of continuation bytes, at most one fewer than the rounds allowed, and one more byte -/
theorem encodeVliLoop_split (fuel v : Nat) :
    ∃ c last, encodeVliLoop (fuel + 1) v = c ++ [last] ∧ AllCont c ∧ c.length ≤ fuel := by
  induction fuel generalizing v with
  | zero =>
    rw [encodeVliLoop_succ]
    split <;> exact ⟨[], _, rfl, nofun, Nat.le_refl 0⟩
  | succ fuel ih =>
    rw [encodeVliLoop_succ]
    by_cases h : v < 128
    · rw [if_pos h]
      exact ⟨[], u8 v, rfl, nofun, Nat.zero_le _⟩
    · obtain ⟨c, last, he, hc, hl⟩ := ih (v / 128)
      rw [if_neg h, he]
      refine ⟨u8 (v % 128 + 128) :: c, last, rfl, fun b hb => ?_, Nat.succ_le_succ hl⟩
      rcases List.mem_cons.1 hb with rfl | hb
      · rw [u8_cont_toNat, Nat.add_div_right _ (by decide)]
        exact Nat.succ_ne_zero _
      · exact hc b hb

end GV
