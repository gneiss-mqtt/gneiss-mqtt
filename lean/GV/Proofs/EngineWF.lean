/- Proofs/EngineWF.lean — the engine's well-formedness invariant (the clauses of Model/EngineWF.lean, as propositions), how it
   behaves under each kind of change of the view, and its preservation by user events, connection opened / closed and write
   completion.  Proofs/EngineWFStep.lean continues with CONNACK, inbound packets and the service loop, and concludes for every
   event and every history (`step_inv`, `run_inv`, `inv_after`).

   `View` is the part of the state the invariant speaks about; `Big S U v` is the invariant with the location clause
   relaxed for the operation ids in `S` (operations taken out of a container and about to be failed or re-filed by
   the function in progress) and the reservation / PUBREL clauses relaxed for the ids in `U` (operations about to be
   restarted while a CONNACK is applied); `Big [] [] v` is the invariant proper.  `Stp S U T W a b` takes both layers,
   the operation-table invariant of Proofs/EngineInv.lean and `Big`, from `a` to `b`. -/
import GV.Proofs.EngineInv
import GV.Model.EngineWF
import GV.Proofs.PacketIds
namespace GV

/-- What the structural invariant reads of the engine; `noTimeouts`: no ack-timeout record, `rm`: the negotiated Receive Maximum,
    `connackSet`: a CONNACK deadline is set (`connackSet` and `policy` are read by the exclusivity layer only). -/
structure View where
  state : PState
  ops : List (Nat × Op)
  nextOpId : Nat
  userQ : List Nat
  resubQ : List Nat
  highQ : List Nat
  current : Option Nat
  allocated : List (Nat × Nat)
  pendingPub : List (Nat × Nat)
  pendingNonPub : List (Nat × Nat)
  pendingWC : List Nat
  noTimeouts : Bool
  rm : Option Nat
  nextPacketId : Nat
  connackSet : Bool
  policy : OfflinePolicy

def Engine.view (e : Engine) : View :=
  { state := e.state, ops := e.ops, nextOpId := e.nextOpId, userQ := e.userQ, resubQ := e.resubQ, highQ := e.highQ,
    current := e.current, allocated := e.allocated, pendingPub := e.pendingPub, pendingNonPub := e.pendingNonPub,
    pendingWC := e.pendingWC, noTimeouts := e.timeouts.isEmpty, rm := e.settings.map (·.receiveMaximum),
    nextPacketId := e.nextPacketId, connackSet := e.connackDeadline.isSome, policy := e.cfg.policy }

def View.Located (v : View) (id : Nat) : Prop :=
  id ∈ v.userQ ∨ id ∈ v.resubQ ∨ id ∈ v.highQ ∨ v.current = some id ∨ id ∈ v.pendingWC ∨
  id ∈ vals v.pendingPub ∨ id ∈ vals v.pendingNonPub

/-- The structural invariant, with exception sets (`Big [] []` is the invariant proper).
    `p1s`/`p1r` reserved packet ids are kept in key order, in 1..65535, and so is the allocator's cursor · `p2` a reserved id is held by a
    tracked operation that carries it · `p3` a carried id is reserved for its operation (`U`: or nothing at all is reserved or pending,
    while a CONNACK restarts the operation) · `p4` the packet carries the id · `n` only packets that need an id have one ·
    `tps`/`tp`, `tns`/`tn` the pending tables are in key order and name tracked QoS 1/2 publishes, resp. (un)subscribes, carrying the id they
    are filed under · `wc` what waits for the write completion needs no id · `loc` a tracked operation sits in a queue, the current slot,
    the unflushed list or a pending table (`S`: or is in transit inside the function in progress) · `pr` a PUBREL is held only by a
    delivery in progress · `h2`/`pr2` the high-priority queue holds publishes only as PUBRELs of pending operations · `h1` during the
    handshake only the CONNECT is in flight · `c1` the operation being written while connected has its id · `f` while connected the
    pending publishes number at most the Receive Maximum, with room for the one being written · `qb` queued ids are below the next id. -/
structure Big (S U : List Nat) (v : View) : Prop where
  p1s : KeysSorted v.allocated
  p1r : (∀ x ∈ v.allocated, 1 ≤ x.1 ∧ x.1 ≤ 65535) ∧ 1 ≤ v.nextPacketId ∧ v.nextPacketId ≤ 65535
  p2 : ∀ pid id, v.allocated.lookup pid = some id → ∃ o, v.ops.lookup id = some o ∧ o.packetId = some pid
  p3 : ∀ id o pid, v.ops.lookup id = some o → o.packetId = some pid →
    v.allocated.lookup pid = some id ∨ (id ∈ U ∧ v.allocated = [] ∧ v.pendingPub = [] ∧ v.pendingNonPub = [])
  p4 : ∀ id o pid, v.ops.lookup id = some o → o.packetId = some pid → pktPid o.packet = pid
  n : ∀ id o, v.ops.lookup id = some o → o.packetId.isSome = true → needsPacketId o.packet = true
  tps : KeysSorted v.pendingPub
  tp : ∀ pid id, v.pendingPub.lookup pid = some id →
    ∃ o, v.ops.lookup id = some o ∧ o.packetId = some pid ∧ isAckedPublish o.packet = true
  tns : KeysSorted v.pendingNonPub
  tn : ∀ pid id, v.pendingNonPub.lookup pid = some id →
    ∃ o, v.ops.lookup id = some o ∧ o.packetId = some pid ∧ isSubOrUnsub o.packet = true
  wc : ∀ id ∈ v.pendingWC, ∀ o, v.ops.lookup id = some o → needsPacketId o.packet = false
  loc : ∀ id o, v.ops.lookup id = some o → v.Located id ∨ id ∈ S
  pr : ∀ id o, v.ops.lookup id = some o → o.pubrel.isSome = true → pktDup o.packet = true ∨ id ∈ vals v.pendingPub ∨ id ∈ U
  h2 : ∀ id ∈ v.highQ, ∀ o, v.ops.lookup id = some o → isAckedPublish o.packet = true → o.pubrel.isSome = true
  pr2 : ∀ id ∈ v.highQ, ∀ o, v.ops.lookup id = some o → o.pubrel.isSome = true → id ∈ vals v.pendingPub
  h1 : v.state = .pendingConnack →
    (∀ id ∈ v.highQ ++ v.pendingWC, ∀ o, v.ops.lookup id = some o → isConnectPacket o.packet = true) ∧
    (∀ id, v.current = some id → ∀ o, v.ops.lookup id = some o → isConnectPacket o.packet = true) ∧
    v.pendingPub = [] ∧ v.pendingNonPub = [] ∧ v.noTimeouts = true
  c1 : v.state = .connected → ∀ id, v.current = some id → ∀ o, v.ops.lookup id = some o →
    needsPacketId o.packet = true → o.packetId.isSome = true
  f : v.state = .connected → ∃ rm, v.rm = some rm ∧ v.pendingPub.length ≤ rm ∧
    ∀ id, v.current = some id → ∀ o, v.ops.lookup id = some o → isAckedPublish o.packet = true →
      id ∈ vals v.pendingPub ∨ v.pendingPub.length < rm
  qb : (∀ id ∈ v.userQ ++ v.resubQ ++ v.highQ ++ v.pendingWC, id < v.nextOpId) ∧ ∀ id, v.current = some id → id < v.nextOpId

/-- a Disconnected engine has nothing in flight -/
def D1 (v : View) : Prop :=
  v.state = .disconnected →
    v.current = none ∧ v.highQ = [] ∧ v.pendingPub = [] ∧ v.pendingNonPub = [] ∧ v.pendingWC = [] ∧ v.noTimeouts = true

/-- while connected, both queues are in submission order -/
def SQ (v : View) : Prop := v.state = .connected → sortedNat v.userQ = true ∧ sortedNat v.resubQ = true

def Inv (e : Engine) : Prop := e.core.Ok ∧ Big [] [] e.view ∧ D1 e.view ∧ SQ e.view

/-- the invariant reads neither the clock nor the output buffers of the step -/
theorem Inv.begin {e : Engine} (h : Inv e) (t : Nat) : Inv (e.begin t) :=
  ⟨⟨h.1.sorted, h.1.ids, h.1.userKind, h.1.wc, h.1.slow, h.1.to⟩, h.2⟩

/-! ### facts about lists and association lists -/

theorem mem_vals_of_lookup {m : List (Nat × Nat)} {k v : Nat} (h : m.lookup k = some v) : v ∈ vals m :=
  List.mem_map.mpr ⟨(k, v), mem_of_lookup h, rfl⟩

theorem lookup_of_mem_vals {m : List (Nat × Nat)} (hs : KeysSorted m) {v : Nat} (h : v ∈ vals m) : ∃ k, m.lookup k = some v := by
  obtain ⟨x, hx, rfl⟩ := List.mem_map.mp h
  exact ⟨x.1, lookup_of_mem hs hx⟩

theorem releaseFrom_sorted {m : List (Nat × Nat)} (h : KeysSorted m) (pid : Option Nat) : KeysSorted (releaseFrom m pid) := by
  cases pid with
  | none => exact h
  | some p => exact h.mapErase p

theorem lookup_releaseFrom_some {m : List (Nat × Nat)} {pid : Option Nat} {j v : Nat} (h : (releaseFrom m pid).lookup j = some v) :
    pid ≠ some j ∧ m.lookup j = some v := by
  cases pid with
  | none => exact ⟨by simp, h⟩
  | some p =>
    have := lookup_mapErase_some h
    exact ⟨by intro hh; cases hh; exact this.1 rfl, this.2⟩

theorem lookup_releaseFrom_of_ne {m : List (Nat × Nat)} {pid : Option Nat} {j : Nat} (h : pid ≠ some j) :
    (releaseFrom m pid).lookup j = m.lookup j := by
  cases pid with
  | none => rfl
  | some p =>
    have : j ≠ p := by intro hh; subst hh; exact h rfl
    exact lookup_mapErase_ne _ _ _ this

theorem releaseFrom_length_le (m : List (Nat × Nat)) (pid : Option Nat) : (releaseFrom m pid).length ≤ m.length := by
  cases pid with
  | none => exact Nat.le_refl _
  | some p => exact mapErase_length_le _ _

theorem releaseFrom_nil {m : List (Nat × Nat)} (h : m = []) (pid : Option Nat) : releaseFrom m pid = [] := by
  subst h; cases pid <;> rfl

theorem mem_releaseFrom {m : List (Nat × Nat)} {pid : Option Nat} {x : Nat × Nat} (h : x ∈ releaseFrom m pid) : x ∈ m := by
  cases pid with
  | none => exact h
  | some p => exact (mem_mapErase.mp h).1

theorem sortedNat_append_singleton (l : List Nat) (x : Nat) (hs : sortedNat l = true) (hx : ∀ y ∈ l, y ≤ x) : sortedNat (l ++ [x]) = true := by
  induction l with
  | nil => rfl
  | cons a r ih =>
    cases r with
    | nil => simp [sortedNat]; exact hx a (List.mem_cons_self ..)
    | cons b r' =>
      simp only [sortedNat, Bool.and_eq_true, decide_eq_true_eq] at hs
      have := ih hs.2 (fun y hy => hx y (List.mem_cons_of_mem _ hy))
      simp only [List.cons_append, sortedNat, Bool.and_eq_true, decide_eq_true_eq]
      exact ⟨hs.1, this⟩

theorem sortedNat_tail (a : Nat) (l : List Nat) (hs : sortedNat (a :: l) = true) : sortedNat l = true := by
  cases l with
  | nil => rfl
  | cons b r => simp only [sortedNat, Bool.and_eq_true] at hs; exact hs.2

/-! ### the invariant by tables and by operations -/

theorem View.Located.userQ {v : View} {id : Nat} (h : id ∈ v.userQ) : v.Located id := .inl h
theorem View.Located.resubQ {v : View} {id : Nat} (h : id ∈ v.resubQ) : v.Located id := .inr (.inl h)
theorem View.Located.highQ {v : View} {id : Nat} (h : id ∈ v.highQ) : v.Located id := .inr (.inr (.inl h))
theorem View.Located.current {v : View} {id : Nat} (h : v.current = some id) : v.Located id := .inr (.inr (.inr (.inl h)))
theorem View.Located.pendingWC {v : View} {id : Nat} (h : id ∈ v.pendingWC) : v.Located id := .inr (.inr (.inr (.inr (.inl h))))
theorem View.Located.pendingPub {v : View} {id : Nat} (h : id ∈ vals v.pendingPub) : v.Located id := .inr (.inr (.inr (.inr (.inr (.inl h)))))
theorem View.Located.pendingNonPub {v : View} {id : Nat} (h : id ∈ vals v.pendingNonPub) : v.Located id :=
  .inr (.inr (.inr (.inr (.inr (.inr h)))))

theorem Located.mono {v v' : View} {id : Nat} (h : v.Located id)
    (h1 : id ∈ v.userQ → id ∈ v'.userQ) (h2 : id ∈ v.resubQ → id ∈ v'.resubQ) (h3 : id ∈ v.highQ → id ∈ v'.highQ)
    (h4 : v.current = some id → v'.current = some id) (h5 : id ∈ v.pendingWC → id ∈ v'.pendingWC)
    (h6 : id ∈ vals v.pendingPub → id ∈ vals v'.pendingPub) (h7 : id ∈ vals v.pendingNonPub → id ∈ vals v'.pendingNonPub) :
    v'.Located id := by
  rcases h with a | a | a | a | a | a | a
  · exact .userQ (h1 a)
  · exact .resubQ (h2 a)
  · exact .highQ (h3 a)
  · exact .current (h4 a)
  · exact .pendingWC (h5 a)
  · exact .pendingPub (h6 a)
  · exact .pendingNonPub (h7 a)

/-- the containers change and drop members of `T` only -/
theorem View.Located.move {T : List Nat} {v v' : View} {id : Nat} (h : v.Located id)
    (h1 : id ∈ v.userQ → id ∈ v'.userQ ∨ id ∈ T) (h2 : id ∈ v.resubQ → id ∈ v'.resubQ ∨ id ∈ T)
    (h3 : id ∈ v.highQ → id ∈ v'.highQ ∨ id ∈ T) (h4 : v.current = some id → v'.current = some id ∨ id ∈ T)
    (h5 : id ∈ v.pendingWC → id ∈ v'.pendingWC ∨ id ∈ T) (h6 : id ∈ vals v.pendingPub → id ∈ vals v'.pendingPub ∨ id ∈ T)
    (h7 : id ∈ vals v.pendingNonPub → id ∈ vals v'.pendingNonPub ∨ id ∈ T) : v'.Located id ∨ id ∈ T := by
  by_cases hT : id ∈ T
  · exact .inr hT
  · exact .inl (Located.mono h (h1 · |>.resolve_right hT) (h2 · |>.resolve_right hT) (h3 · |>.resolve_right hT) (h4 · |>.resolve_right hT)
      (h5 · |>.resolve_right hT) (h6 · |>.resolve_right hT) (h7 · |>.resolve_right hT))

/-- the clauses of `Big` that speak of the tables and queues -/
structure TabOk (v : View) : Prop where
  p1s : KeysSorted v.allocated
  p1r : (∀ x ∈ v.allocated, 1 ≤ x.1 ∧ x.1 ≤ 65535) ∧ 1 ≤ v.nextPacketId ∧ v.nextPacketId ≤ 65535
  p2 : ∀ pid id, v.allocated.lookup pid = some id → ∃ o, v.ops.lookup id = some o ∧ o.packetId = some pid
  tps : KeysSorted v.pendingPub
  tp : ∀ pid id, v.pendingPub.lookup pid = some id →
    ∃ o, v.ops.lookup id = some o ∧ o.packetId = some pid ∧ isAckedPublish o.packet = true
  tns : KeysSorted v.pendingNonPub
  tn : ∀ pid id, v.pendingNonPub.lookup pid = some id →
    ∃ o, v.ops.lookup id = some o ∧ o.packetId = some pid ∧ isSubOrUnsub o.packet = true
  h1 : v.state = .pendingConnack → v.pendingPub = [] ∧ v.pendingNonPub = [] ∧ v.noTimeouts = true
  f : v.state = .connected → ∃ rm, v.rm = some rm ∧ v.pendingPub.length ≤ rm
  qb : (∀ id ∈ v.userQ ++ v.resubQ ++ v.highQ ++ v.pendingWC, id < v.nextOpId) ∧ ∀ id, v.current = some id → id < v.nextOpId

/-- the clauses of `Big` that speak of one tracked operation `o` with id `id` -/
structure OpOk (S U : List Nat) (v : View) (id : Nat) (o : Op) : Prop where
  p3 : ∀ pid, o.packetId = some pid →
    v.allocated.lookup pid = some id ∨ (id ∈ U ∧ v.allocated = [] ∧ v.pendingPub = [] ∧ v.pendingNonPub = [])
  p4 : ∀ pid, o.packetId = some pid → pktPid o.packet = pid
  n : o.packetId.isSome = true → needsPacketId o.packet = true
  wc : id ∈ v.pendingWC → needsPacketId o.packet = false
  loc : v.Located id ∨ id ∈ S
  pr : o.pubrel.isSome = true → pktDup o.packet = true ∨ id ∈ vals v.pendingPub ∨ id ∈ U
  h2 : id ∈ v.highQ → isAckedPublish o.packet = true → o.pubrel.isSome = true
  pr2 : id ∈ v.highQ → o.pubrel.isSome = true → id ∈ vals v.pendingPub
  h1 : v.state = .pendingConnack → id ∈ v.highQ ++ v.pendingWC ∨ v.current = some id → isConnectPacket o.packet = true
  c1 : v.state = .connected → v.current = some id → needsPacketId o.packet = true → o.packetId.isSome = true
  f : v.state = .connected → v.current = some id → isAckedPublish o.packet = true →
    ∀ rm, v.rm = some rm → id ∈ vals v.pendingPub ∨ v.pendingPub.length < rm

theorem Big.tab {S U : List Nat} {v : View} (h : Big S U v) : TabOk v :=
  ⟨h.p1s, h.p1r, h.p2, h.tps, h.tp, h.tns, h.tn, fun hd => (h.h1 hd).2.2, fun hd => let ⟨rm, a, b, _⟩ := h.f hd; ⟨rm, a, b⟩, h.qb⟩

theorem Big.opOk {S U : List Nat} {v : View} (h : Big S U v) {id : Nat} {o : Op} (ho : v.ops.lookup id = some o) : OpOk S U v id o where
  p3 := fun pid => h.p3 id o pid ho
  p4 := fun pid => h.p4 id o pid ho
  n := h.n id o ho
  wc := fun hi => h.wc id hi o ho
  loc := h.loc id o ho
  pr := h.pr id o ho
  h2 := fun hi => h.h2 id hi o ho
  pr2 := fun hi => h.pr2 id hi o ho
  h1 := fun hd hi => hi.elim (fun a => (h.h1 hd).1 id a o ho) (fun a => (h.h1 hd).2.1 id a o ho)
  c1 := fun hd hi => h.c1 hd id hi o ho
  f := fun hd hi hk rm hrm => by
    obtain ⟨rm', hrm', _, hcu⟩ := h.f hd
    cases hrm.symm.trans hrm'
    exact hcu id hi o ho hk

theorem Big.of_entries {S U : List Nat} {v : View} (t : TabOk v) (hk : ∀ id o, v.ops.lookup id = some o → OpOk S U v id o) :
    Big S U v where
  p1s := t.p1s
  p1r := t.p1r
  p2 := t.p2
  p3 := fun id o pid ho => (hk id o ho).p3 pid
  p4 := fun id o pid ho => (hk id o ho).p4 pid
  n := fun id o ho => (hk id o ho).n
  tps := t.tps
  tp := t.tp
  tns := t.tns
  tn := t.tn
  wc := fun id hi o ho => (hk id o ho).wc hi
  loc := fun id o ho => (hk id o ho).loc
  pr := fun id o ho => (hk id o ho).pr
  h2 := fun id hi o ho => (hk id o ho).h2 hi
  pr2 := fun id hi o ho => (hk id o ho).pr2 hi
  h1 := fun hd => ⟨fun id hi o ho => (hk id o ho).h1 hd (.inl hi), fun id hi o ho => (hk id o ho).h1 hd (.inr hi), t.h1 hd⟩
  c1 := fun hd id hi o ho => (hk id o ho).c1 hd hi
  f := fun hd => let ⟨rm, hrm, hlen⟩ := t.f hd; ⟨rm, hrm, hlen, fun id hi o ho ha => (hk id o ho).f hd hi ha rm hrm⟩
  qb := t.qb

/-- an operation that the clauses cannot tell from `o`, except by the PUBREL and DUP marks: for these the clauses are given -/
theorem OpOk.like {S U : List Nat} {v : View} {id : Nat} {o o' : Op} (k : OpOk S U v id o)
    (hpid : o'.packetId = o.packetId) (hpp : pktPid o'.packet = pktPid o.packet) (hn : needsPacketId o'.packet = needsPacketId o.packet)
    (hap : isAckedPublish o'.packet = isAckedPublish o.packet) (hcn : isConnectPacket o'.packet = isConnectPacket o.packet)
    (hpr : o'.pubrel.isSome = true → pktDup o'.packet = true ∨ id ∈ vals v.pendingPub ∨ id ∈ U)
    (hh2 : id ∈ v.highQ → isAckedPublish o'.packet = true → o'.pubrel.isSome = true)
    (hpr2 : id ∈ v.highQ → o'.pubrel.isSome = true → id ∈ vals v.pendingPub) : OpOk S U v id o' :=
  { k with
    p3 := by rw [hpid]; exact k.p3
    p4 := by rw [hpid, hpp]; exact k.p4
    n := by rw [hpid, hn]; exact k.n
    wc := by rw [hn]; exact k.wc
    pr := hpr
    h2 := hh2
    pr2 := hpr2
    h1 := by rw [hcn]; exact k.h1
    c1 := by rw [hn, hpid]; exact k.c1
    f := by rw [hap]; exact k.f }

/-- another operation table: each new entry satisfies the per-operation clauses, and each old entry has a successor
    with the same packet id and kind -/
theorem Big.setOps {S U T W : List Nat} {v : View} (h : Big S U v) (ops' : List (Nat × Op))
    (hk : ∀ id o', ops'.lookup id = some o' → OpOk T W v id o')
    (hf : ∀ id o, v.ops.lookup id = some o → ∃ o', ops'.lookup id = some o' ∧ o'.packetId = o.packetId ∧
      isAckedPublish o'.packet = isAckedPublish o.packet ∧ isSubOrUnsub o'.packet = isSubOrUnsub o.packet) :
    Big T W { v with ops := ops' } :=
  .of_entries { h.tab with
    p2 := fun pid id hl =>
      let ⟨o, ho, hp⟩ := h.p2 pid id hl
      let ⟨o', ho', e, _⟩ := hf id o ho
      ⟨o', ho', e.trans hp⟩
    tp := fun pid id hl =>
      let ⟨o, ho, hp, ha⟩ := h.tp pid id hl
      let ⟨o', ho', e, ea, _⟩ := hf id o ho
      ⟨o', ho', e.trans hp, ea.trans ha⟩
    tn := fun pid id hl =>
      let ⟨o, ho, hp, ha⟩ := h.tn pid id hl
      let ⟨o', ho', e, _, es⟩ := hf id o ho
      ⟨o', ho', e.trans hp, es.trans ha⟩ } fun id o' ho' => { hk id o' ho' with }

theorem Big.lt_userQ {S U : List Nat} {v : View} (h : Big S U v) : ∀ i ∈ v.userQ, i < v.nextOpId :=
  fun i a => h.qb.1 i (List.mem_append_left _ (List.mem_append_left _ (List.mem_append_left _ a)))

theorem Big.lt_resubQ {S U : List Nat} {v : View} (h : Big S U v) : ∀ i ∈ v.resubQ, i < v.nextOpId :=
  fun i a => h.qb.1 i (List.mem_append_left _ (List.mem_append_left _ (List.mem_append_right _ a)))

theorem Big.lt_highQ {S U : List Nat} {v : View} (h : Big S U v) : ∀ i ∈ v.highQ, i < v.nextOpId :=
  fun i a => h.qb.1 i (List.mem_append_left _ (List.mem_append_right _ a))

theorem Big.lt_pendingWC {S U : List Nat} {v : View} (h : Big S U v) : ∀ i ∈ v.pendingWC, i < v.nextOpId :=
  fun i a => h.qb.1 i (List.mem_append_right _ a)

/-- nothing tracked, queued, reserved or awaited, outside a connection -/
theorem Big.empty {v : View} (hs : v.state ≠ .pendingConnack ∧ v.state ≠ .connected) (ho : v.ops = []) (hq : v.userQ ++ v.resubQ ++ v.highQ ++ v.pendingWC = [])
    (hc : v.current = none) (ha : v.allocated = []) (hp : v.pendingPub = []) (hn : v.pendingNonPub = [])
    (hnp : 1 ≤ v.nextPacketId ∧ v.nextPacketId ≤ 65535) : Big [] [] v :=
  .of_entries {
    p1s := ha ▸ KeysSorted.nil
    p1r := ⟨fun x hx => (by rw [ha] at hx; cases hx), hnp⟩
    p2 := fun q i h => by rw [ha] at h; cases h
    tps := hp ▸ KeysSorted.nil
    tp := fun q i h => by rw [hp] at h; cases h
    tns := hn ▸ KeysSorted.nil
    tn := fun q i h => by rw [hn] at h; cases h
    h1 := fun h => absurd h hs.1
    f := fun h => absurd h hs.2
    qb := ⟨fun i hi => (by rw [hq] at hi; cases hi), fun i hi => (by rw [hc] at hi; cases hi)⟩ }
    fun id o h => by rw [ho] at h; cases h

/-! ### exception sets and the protocol state -/

theorem Big.weaken {S T U W : List Nat} {v : View} (h : Big S U v) (hst : ∀ x ∈ S, x ∈ T) (huw : ∀ x ∈ U, x ∈ W) : Big T W v :=
  { h with
    loc := fun id o ho => (h.loc id o ho).imp_right (hst id)
    p3 := fun id o pid ho hp => (h.p3 id o pid ho hp).imp_right fun hx => ⟨huw id hx.1, hx.2⟩
    pr := fun id o ho hp => (h.pr id o ho hp).imp_right (.imp_right (huw id)) }

/-- exceptions that are located again, or untracked, can be dropped -/
theorem Big.shrink {S T U : List Nat} {v : View} (h : Big S U v)
    (hs : ∀ id ∈ S, id ∈ T ∨ v.Located id ∨ v.ops.lookup id = none) : Big T U v :=
  { h with loc := fun id o ho => (h.loc id o ho).elim .inl fun a =>
      (hs id a).elim .inr fun b => b.elim .inl fun c => by rw [c] at ho; cases ho }

theorem Big.drop_untracked {S U : List Nat} {v : View} {id : Nat} (h : Big (id :: S) U v) (hn : v.ops.lookup id = none) : Big S U v :=
  h.shrink (List.forall_mem_cons.mpr ⟨.inr (.inr hn), fun _ a => .inl a⟩)

theorem Big.drop_located {S U : List Nat} {v : View} {id : Nat} (h : Big (id :: S) U v) (hl : v.Located id) : Big S U v :=
  h.shrink (List.forall_mem_cons.mpr ⟨.inr (.inl hl), fun _ a => .inl a⟩)

theorem Big.setState {S U : List Nat} {v : View} (h : Big S U v) (s' : PState)
    (hh1 : s' = .pendingConnack →
      (∀ id ∈ v.highQ ++ v.pendingWC, ∀ o, v.ops.lookup id = some o → isConnectPacket o.packet = true) ∧
      (∀ id, v.current = some id → ∀ o, v.ops.lookup id = some o → isConnectPacket o.packet = true) ∧
      v.pendingPub = [] ∧ v.pendingNonPub = [] ∧ v.noTimeouts = true)
    (hc1 : s' = .connected → ∀ id, v.current = some id → ∀ o, v.ops.lookup id = some o → needsPacketId o.packet = true → o.packetId.isSome = true)
    (hf : s' = .connected → ∃ rm, v.rm = some rm ∧ v.pendingPub.length ≤ rm ∧
      ∀ id, v.current = some id → ∀ o, v.ops.lookup id = some o → isAckedPublish o.packet = true →
        id ∈ vals v.pendingPub ∨ v.pendingPub.length < rm) :
    Big S U { v with state := s' } :=
  { h with h1 := hh1, c1 := hc1, f := hf }

/-- no clause reads the CONNACK-deadline flag or the offline-queue policy -/
theorem Big.setUnread {S U : List Nat} {v : View} (h : Big S U v) (c : Bool) (p : OfflinePolicy) :
    Big S U { v with connackSet := c, policy := p } :=
  { h with }

theorem Big.halt {S U : List Nat} {v : View} (h : Big S U v) : Big S U { v with state := .halted } :=
  h.setState .halted nofun nofun nofun

/-! ### removing an operation (completion) -/

/-- the view after an operation is completed (either way): the operation and its packet-id bindings are gone; a
    DISCONNECT completing in PendingDisconnect halts the engine -/
def View.erased (v : View) (id : Nat) (o : Op) (s' : PState) : View :=
  { state := s', ops := mapErase v.ops id, nextOpId := v.nextOpId, userQ := v.userQ, resubQ := v.resubQ, highQ := v.highQ, current := v.current, allocated := releaseFrom v.allocated o.packetId, pendingPub := releaseFrom v.pendingPub o.packetId, pendingNonPub := releaseFrom v.pendingNonPub o.packetId, pendingWC := v.pendingWC, noTimeouts := v.noTimeouts, rm := v.rm, nextPacketId := v.nextPacketId, connackSet := v.connackSet, policy := v.policy }

theorem Big.erase {S U : List Nat} {v : View} (h : Big S U v) {id : Nat} {o : Op} (ho : v.ops.lookup id = some o) (s' : PState)
    (hs : s' = v.state ∨ (v.state = .pendingDisconnect ∧ s' = .halted)) :
    Big S U (v.erased id o s') := by
  -- another tracked operation holds another packet id (or nothing at all is reserved or pending): its entries stay
  have hb : ∀ {i x q}, i ≠ id → v.ops.lookup i = some x → x.packetId = some q →
      ∀ {m}, (v.allocated = [] ∧ v.pendingPub = [] ∧ v.pendingNonPub = [] → m = []) → (releaseFrom m o.packetId).lookup q = m.lookup q := by
    intro i x q hne hx hq m hm
    by_cases hp : o.packetId = some q
    · have he : m = [] := by
        rcases h.p3 i x q hx hq with h1 | h1
        · rcases h.p3 id o q ho hp with h2 | h2
          · rw [h1] at h2; cases h2; exact absurd rfl hne
          · exact hm h2.2
        · exact hm h1.2
      rw [releaseFrom_nil he, he]
    · exact lookup_releaseFrom_of_ne hp
  have hcp : ∀ i, i ≠ id → i ∈ vals v.pendingPub → i ∈ vals (releaseFrom v.pendingPub o.packetId) := by
    intro i hne hm
    obtain ⟨q, hl⟩ := lookup_of_mem_vals h.tps hm
    obtain ⟨x, hx, hq, _⟩ := h.tp q i hl
    exact mem_vals_of_lookup ((hb hne hx hq (·.2.1)).trans hl)
  have hcn : ∀ i, i ≠ id → i ∈ vals v.pendingNonPub → i ∈ vals (releaseFrom v.pendingNonPub o.packetId) := by
    intro i hne hm
    obtain ⟨q, hl⟩ := lookup_of_mem_vals h.tns hm
    obtain ⟨x, hx, hq, _⟩ := h.tn q i hl
    exact mem_vals_of_lookup ((hb hne hx hq (·.2.2)).trans hl)
  -- an entry left in a table names an operation that is still tracked
  have hrel : ∀ {m : List (Nat × Nat)} {q i x}, (releaseFrom m o.packetId).lookup q = some i → v.ops.lookup i = some x →
      x.packetId = some q → (mapErase v.ops id).lookup i = some x := by
    intro m q i x hl hx hq
    refine (lookup_mapErase_ne _ _ _ ?_).trans hx
    intro hh; subst hh; rw [ho] at hx; cases hx; exact (lookup_releaseFrom_some hl).1 hq
  have hle := releaseFrom_length_le v.pendingPub o.packetId
  have main : Big S U (v.erased id o v.state) := by
    refine .of_entries { h.tab with
      p1s := releaseFrom_sorted h.p1s _
      p1r := ⟨fun x hx => h.p1r.1 x (mem_releaseFrom hx), h.p1r.2⟩
      p2 := fun q i hl => let ⟨x, hx, hq⟩ := h.p2 q i (lookup_releaseFrom_some hl).2; ⟨x, hrel hl hx hq, hq⟩
      tps := releaseFrom_sorted h.tps _
      tp := fun q i hl => let ⟨x, hx, hq, a⟩ := h.tp q i (lookup_releaseFrom_some hl).2; ⟨x, hrel hl hx hq, hq, a⟩
      tns := releaseFrom_sorted h.tns _
      tn := fun q i hl => let ⟨x, hx, hq, a⟩ := h.tn q i (lookup_releaseFrom_some hl).2; ⟨x, hrel hl hx hq, hq, a⟩
      h1 := fun hd => let ⟨a, b, c⟩ := h.tab.h1 hd; ⟨releaseFrom_nil a _, releaseFrom_nil b _, c⟩
      f := fun hd => let ⟨rm, a, b⟩ := h.tab.f hd; ⟨rm, a, Nat.le_trans hle b⟩ } fun i x hx => ?_
    obtain ⟨hne, hx'⟩ := lookup_mapErase_some hx
    have k := h.opOk hx'
    exact { k with
      p3 := fun q hq => (k.p3 q hq).imp
        (hb hne hx' hq (·.1)).trans
        (fun a => ⟨a.1, releaseFrom_nil a.2.1 _, releaseFrom_nil a.2.2.1 _, releaseFrom_nil a.2.2.2 _⟩)
      loc := k.loc.imp_left (Located.mono (v := v) · (·) (·) (·) (·) (·) (hcp i hne) (hcn i hne))
      pr := fun hp => (k.pr hp).imp_right (.imp_left (hcp i hne))
      pr2 := fun hi hp => hcp i hne (k.pr2 hi hp)
      f := fun hd hi ha rm hrm => (k.f hd hi ha rm hrm).imp (hcp i hne) (Nat.lt_of_le_of_lt hle) }
  rcases hs with rfl | ⟨_, rfl⟩
  · exact main
  · exact main.halt

/-- how either kind of completion changes the view: not at all (no such operation), or the operation is erased -/
def Erases (e : Engine) (id : Nat) (e' : Engine) : Prop :=
  (e.op? id = none ∧ e' = e) ∨
  ∃ o s', e.op? id = some o ∧ e'.view = e.view.erased id o s' ∧ (s' = e.state ∨ (e.state = .pendingDisconnect ∧ s' = .halted))

theorem completeFailure_erases (e : Engine) (id : Nat) (k : String) : Erases e id (e.completeFailure id k).1 := by
  cases ho : e.op? id with
  | none => exact .inl ⟨ho, by rw [completeFailure_none k ho]⟩
  | some o =>
    obtain ⟨sc, st, oc, heq, hst⟩ := completeFailure_shape e id k ho
    exact .inr ⟨o, st, ho, by rw [heq]; rfl, hst⟩

theorem completeSuccess_erases (e : Engine) (id : Nat) (c : Option Completion) : Erases e id (e.completeSuccess id c).1 := by
  cases ho : e.op? id with
  | none => exact .inl ⟨ho, by rw [completeSuccess_none c ho]⟩
  | some o =>
    obtain ⟨sc, st, oc, np, heq, hst, _⟩ := completeSuccess_shape e id c ho
    exact .inr ⟨o, st, ho, by rw [heq]; rfl, hst⟩

/-- **Completing an operation keeps the invariant** (for any exception set) -/
theorem Erases.big {S U : List Nat} {e e' : Engine} {id : Nat} (he : Erases e id e') (h : Big S U e.view) : Big S U e'.view := by
  rcases he with ⟨_, rfl⟩ | ⟨o, s', ho, hv, hs⟩
  · exact h
  · rw [hv]; exact h.erase ho s' hs

theorem Erases.untracks {e e' : Engine} {id : Nat} (he : Erases e id e') : e'.view.ops.lookup id = none := by
  rcases he with ⟨hn, rfl⟩ | ⟨o, s', _, hv, _⟩
  · exact hn
  · rw [hv]; exact lookup_mapErase_self _ _

/-- an excepted operation that completes is no exception any more -/
theorem Erases.big_drop {S U : List Nat} {e e' : Engine} {id : Nat} (he : Erases e id e') (h : Big (id :: S) U e.view) :
    Big S U e'.view :=
  (he.big h).drop_untracked he.untracks

/-! ### replacing an operation by a variant of itself -/

theorem Big.replace {S U : List Nat} {v : View} (h : Big S U v) {id : Nat} {o o' : Op} (ho : v.ops.lookup id = some o)
    (hpid : o'.packetId = o.packetId) (hpp : pktPid o'.packet = pktPid o.packet) (hn : needsPacketId o'.packet = needsPacketId o.packet)
    (hap : isAckedPublish o'.packet = isAckedPublish o.packet) (hsu : isSubOrUnsub o'.packet = isSubOrUnsub o.packet)
    (hcn : isConnectPacket o'.packet = isConnectPacket o.packet)
    (hpr : o'.pubrel.isSome = true → pktDup o'.packet = true ∨ id ∈ vals v.pendingPub ∨ id ∈ U)
    (hh2 : id ∈ v.highQ → isAckedPublish o'.packet = true → o'.pubrel.isSome = true)
    (hpr2 : id ∈ v.highQ → o'.pubrel.isSome = true → id ∈ vals v.pendingPub) :
    Big S U { v with ops := mapInsert v.ops id o' } := by
  refine h.setOps _ (fun i x hx => ?_) (fun i x hx => ?_)
  · rcases lookup_mapInsert_some hx with ⟨rfl, rfl⟩ | ⟨_, hx'⟩
    · exact (h.opOk ho).like hpid hpp hn hap hcn hpr hh2 hpr2
    · exact h.opOk hx'
  · by_cases hi : i = id
    · subst hi; rw [ho] at hx; cases hx
      exact ⟨o', lookup_mapInsert_self _ _ _, hpid, hap, hsu⟩
    · exact ⟨x, lookup_mapInsert_keep _ hi hx, rfl, rfl, rfl⟩

/-! ### steps: both layers of the invariant at once -/

/-- from `a` to `b`: the operation-table layer (`Pres`) is kept, and the structural layer goes from exception sets
    `S U` to `T W` -/
structure Stp (S U T W : List Nat) (a b : Engine) : Prop where
  pres : Pres a b
  keeps : a.core.Ok → Big S U a.view → Big T W b.view

theorem Stp.refl (S U : List Nat) (a : Engine) : Stp S U S U a a := ⟨Pres.refl a, fun _ h => h⟩

theorem Stp.trans {S U T W X Y : List Nat} {a b c : Engine} (h1 : Stp S U T W a b) (h2 : Stp T W X Y b c) : Stp S U X Y a c :=
  ⟨h1.pres.trans h2.pres, fun hok hb => h2.keeps (h1.pres hok).1 (h1.keeps hok hb)⟩

theorem Stp.of_eq {S U : List Nat} {a b : Engine} (hc : b.core = a.core) (hv : b.view = a.view) : Stp S U S U a b :=
  ⟨Pres.of_core_eq hc, fun _ h => by rw [hv]; exact h⟩

theorem Stp.weaken {S U T W T' W' : List Nat} {a b : Engine} (h : Stp S U T W a b) (h1 : ∀ x ∈ T, x ∈ T') (h2 : ∀ x ∈ W, x ∈ W') :
    Stp S U T' W' a b :=
  ⟨h.pres, fun hok hb => (h.keeps hok hb).weaken h1 h2⟩

theorem completeFailure_step {S U : List Nat} (e : Engine) (id : Nat) (k : String) : Stp S U S U e (e.completeFailure id k).1 :=
  ⟨completeFailure_pres e id k, fun _ => (completeFailure_erases e id k).big⟩

theorem completeFailure_step_drop {S U : List Nat} (e : Engine) (id : Nat) (k : String) : Stp (id :: S) U S U e (e.completeFailure id k).1 :=
  ⟨completeFailure_pres e id k, fun _ => (completeFailure_erases e id k).big_drop⟩

theorem completeSuccess_step {S U : List Nat} (e : Engine) (id : Nat) (c : Option Completion)
    (hres : ∀ o, e.op? id = some o → o.user.isSome = true → (resultFor o.packet c).isSome = true) :
    Stp S U S U e (e.completeSuccess id c).1 :=
  ⟨completeSuccess_pres e id c hres, fun _ => (completeSuccess_erases e id c).big⟩

theorem completeSuccess_step_drop {S U : List Nat} (e : Engine) (id : Nat) (c : Option Completion)
    (hres : ∀ o, e.op? id = some o → o.user.isSome = true → (resultFor o.packet c).isSome = true) :
    Stp (id :: S) U S U e (e.completeSuccess id c).1 :=
  ⟨completeSuccess_pres e id c hres, fun _ => (completeSuccess_erases e id c).big_drop⟩

theorem foldlE_step {α} {S U : List Nat} (f : Engine → α → Engine) (hf : ∀ e a, Stp S U S U e (f e a)) :
    ∀ (l : List α) (e : Engine), Stp S U S U e (l.foldl f e) :=
  fun l e => foldl_preserves f (Stp S U S U e ·) (fun x a hx => hx.trans (hf x a)) l e (Stp.refl S U e)

theorem failAll_step_drop {S U : List Nat} (e : Engine) (ids : List Nat) (k : String) : Stp (ids ++ S) U S U e (e.failAll ids k).1 :=
  failAll_ind (fun T x => Stp (ids ++ S) U (T ++ S) U e x.1) k ids (fun _ x _ id _ h => h.trans (completeFailure_step_drop x id k))
    e (Stp.refl _ _ e)

theorem failAllIgnoringDisconnect_step_drop {S U : List Nat} (e : Engine) (ids : List Nat) (k : String) :
    Stp (ids ++ S) U S U e (e.failAllIgnoringDisconnect ids k).1 :=
  failAllIgnoringDisconnect_ind (fun T x => Stp (ids ++ S) U (T ++ S) U e x.1) k ids
    (fun _ x _ id _ h => h.trans (completeFailure_step_drop x id k)) e (Stp.refl _ _ e)

theorem Stp.halt {S U T W : List Nat} {a b : Engine} (h : Stp S U T W a b) : Stp S U T W a { b with state := .halted } :=
  ⟨h.pres.halt, fun hok hb => (h.keeps hok hb).halt⟩

theorem halt_stp {S U : List Nat} (e : Engine) : Stp S U S U e { e with state := .halted } := (Stp.refl S U e).halt

/-! ### changing one container -/

theorem Big.setUserQ {S U T : List Nat} {v : View} (h : Big S U v) (uq : List Nat)
    (hloc : ∀ i, i ∈ v.userQ → i ∈ uq ∨ i ∈ T) (hS : ∀ i ∈ S, i ∈ uq ∨ i ∈ T)
    (hqb : ∀ i ∈ uq, i < v.nextOpId) :
    Big T U { v with userQ := uq } :=
  { h with
    loc := fun i x hx => (h.loc i x hx).elim (·.move (hloc i) .inl .inl .inl .inl .inl .inl) (fun a => (hS i a).imp_left .userQ)
    qb := ⟨List.forall_mem_append.mpr ⟨List.forall_mem_append.mpr ⟨List.forall_mem_append.mpr ⟨hqb, h.lt_resubQ⟩, h.lt_highQ⟩,
      h.lt_pendingWC⟩, h.qb.2⟩ }

theorem Big.setResubQ {S U T : List Nat} {v : View} (h : Big S U v) (rq : List Nat)
    (hloc : ∀ i, i ∈ v.resubQ → i ∈ rq ∨ i ∈ T) (hS : ∀ i ∈ S, i ∈ rq ∨ i ∈ T)
    (hqb : ∀ i ∈ rq, i < v.nextOpId) :
    Big T U { v with resubQ := rq } :=
  { h with
    loc := fun i x hx => (h.loc i x hx).elim (·.move .inl (hloc i) .inl .inl .inl .inl .inl) (fun a => (hS i a).imp_left .resubQ)
    qb := ⟨List.forall_mem_append.mpr ⟨List.forall_mem_append.mpr ⟨List.forall_mem_append.mpr ⟨h.lt_userQ, hqb⟩, h.lt_highQ⟩,
      h.lt_pendingWC⟩, h.qb.2⟩ }

theorem Big.setHighQ {S U T : List Nat} {v : View} (h : Big S U v) (hq : List Nat)
    (hloc : ∀ i, i ∈ v.highQ → i ∈ hq ∨ i ∈ T) (hS : ∀ i ∈ S, i ∈ hq ∨ i ∈ T)
    (hqb : ∀ i ∈ hq, i < v.nextOpId)
    (hh2 : ∀ i ∈ hq, ∀ o, v.ops.lookup i = some o → isAckedPublish o.packet = true → o.pubrel.isSome = true)
    (hpr2 : ∀ i ∈ hq, ∀ o, v.ops.lookup i = some o → o.pubrel.isSome = true → i ∈ vals v.pendingPub)
    (hh1 : v.state = .pendingConnack → ∀ i ∈ hq, ∀ o, v.ops.lookup i = some o → isConnectPacket o.packet = true) :
    Big T U { v with highQ := hq } :=
  { h with
    loc := fun i x hx => (h.loc i x hx).elim (·.move .inl .inl (hloc i) .inl .inl .inl .inl) (fun a => (hS i a).imp_left .highQ)
    qb := ⟨List.forall_mem_append.mpr ⟨List.forall_mem_append.mpr ⟨List.forall_mem_append.mpr ⟨h.lt_userQ, h.lt_resubQ⟩, hqb⟩,
      h.lt_pendingWC⟩, h.qb.2⟩
    h2 := hh2
    pr2 := hpr2
    h1 := fun hd => let ⟨a, b⟩ := h.h1 hd; ⟨List.forall_mem_append.mpr ⟨hh1 hd, (List.forall_mem_append.mp a).2⟩, b⟩ }

theorem Big.setCurrent {S U T : List Nat} {v : View} (h : Big S U v) (cur : Option Nat)
    (hloc : ∀ i, v.current = some i → cur = some i ∨ i ∈ T) (hS : ∀ i ∈ S, cur = some i ∨ i ∈ T)
    (hqb : ∀ i, cur = some i → i < v.nextOpId)
    (hh1 : v.state = .pendingConnack → ∀ i, cur = some i → ∀ o, v.ops.lookup i = some o → isConnectPacket o.packet = true)
    (hc1 : v.state = .connected → ∀ i, cur = some i → ∀ o, v.ops.lookup i = some o → needsPacketId o.packet = true → o.packetId.isSome = true)
    (hf : v.state = .connected → ∀ rm, v.rm = some rm → ∀ i, cur = some i → ∀ o, v.ops.lookup i = some o → isAckedPublish o.packet = true →
      i ∈ vals v.pendingPub ∨ v.pendingPub.length < rm) :
    Big T U { v with current := cur } :=
  { h with
    loc := fun i x hx => (h.loc i x hx).elim (·.move .inl .inl .inl (hloc i) .inl .inl .inl) (fun a => (hS i a).imp_left .current)
    qb := ⟨h.qb.1, hqb⟩
    h1 := fun hd => let ⟨a, _, c⟩ := h.h1 hd; ⟨a, hh1 hd, c⟩
    c1 := hc1
    f := fun hd => let ⟨rm, hrm, hlen, _⟩ := h.f hd; ⟨rm, hrm, hlen, hf hd rm hrm⟩ }

theorem Big.setPendingWC {S U T : List Nat} {v : View} (h : Big S U v) (wcq : List Nat)
    (hloc : ∀ i, i ∈ v.pendingWC → i ∈ wcq ∨ i ∈ T) (hS : ∀ i ∈ S, i ∈ wcq ∨ i ∈ T)
    (hqb : ∀ i ∈ wcq, i < v.nextOpId)
    (hwc : ∀ i ∈ wcq, ∀ o, v.ops.lookup i = some o → needsPacketId o.packet = false)
    (hh1 : v.state = .pendingConnack → ∀ i ∈ wcq, ∀ o, v.ops.lookup i = some o → isConnectPacket o.packet = true) :
    Big T U { v with pendingWC := wcq } :=
  { h with
    loc := fun i x hx => (h.loc i x hx).elim (·.move .inl .inl .inl .inl (hloc i) .inl .inl) (fun a => (hS i a).imp_left .pendingWC)
    qb := ⟨List.forall_mem_append.mpr ⟨fun i a => h.qb.1 i (List.mem_append_left _ a), hqb⟩, h.qb.2⟩
    wc := hwc
    h1 := fun hd => let ⟨a, b⟩ := h.h1 hd; ⟨List.forall_mem_append.mpr ⟨(List.forall_mem_append.mp a).1, hh1 hd⟩, b⟩ }

theorem Big.setCurrent_none {S U T : List Nat} {v : View} (h : Big S U v) (hloc : ∀ i, v.current = some i → i ∈ T) (hS : ∀ i ∈ S, i ∈ T) :
    Big T U { v with current := none } :=
  h.setCurrent none (fun i hi => .inr (hloc i hi)) (fun i hi => .inr (hS i hi)) nofun nofun nofun nofun

/-- clearing the current slot: its operation becomes an exception -/
theorem Big.clearCurrent {S U : List Nat} {v : View} (h : Big S U v) (id : Nat) (hc : v.current = some id) :
    Big (id :: S) U { v with current := none } :=
  h.setCurrent_none (fun i hi => by rw [hc] at hi; cases hi; exact List.mem_cons_self ..) (fun _ hi => List.mem_cons_of_mem _ hi)

theorem Big.clearCurrent_none {S U : List Nat} {v : View} (h : Big S U v) (hc : v.current = none) : Big S U { v with current := none } :=
  h.setCurrent_none (fun i hi => by rw [hc] at hi; cases hi) (fun _ hi => hi)

theorem Big.pushUserBack {S U : List Nat} {v : View} {id : Nat} (h : Big (id :: S) U v) (hid : id < v.nextOpId) :
    Big S U { v with userQ := v.userQ ++ [id] } :=
  h.setUserQ (v.userQ ++ [id]) (fun _ hi => .inl (List.mem_append_left _ hi))
    (List.forall_mem_cons.mpr ⟨.inl (List.mem_append_right _ (List.mem_singleton_self _)), fun _ a => .inr a⟩)
    (List.forall_mem_append.mpr ⟨h.lt_userQ, List.forall_mem_singleton.mpr hid⟩)

/-- an excepted operation goes to the front of a queue (`SQ` survives that only outside Connected) -/
theorem Big.pushUserFront {S U : List Nat} {v : View} {id : Nat} (h : Big (id :: S) U v) (hid : id < v.nextOpId) :
    Big S U { v with userQ := id :: v.userQ } :=
  h.setUserQ (id :: v.userQ) (fun _ hi => .inl (List.mem_cons_of_mem _ hi))
    (List.forall_mem_cons.mpr ⟨.inl (List.mem_cons_self ..), fun _ a => .inr a⟩) (List.forall_mem_cons.mpr ⟨hid, h.lt_userQ⟩)

theorem Big.pushResubFront {S U : List Nat} {v : View} {id : Nat} (h : Big (id :: S) U v) (hid : id < v.nextOpId) :
    Big S U { v with resubQ := id :: v.resubQ } :=
  h.setResubQ (id :: v.resubQ) (fun _ hi => .inl (List.mem_cons_of_mem _ hi))
    (List.forall_mem_cons.mpr ⟨.inl (List.mem_cons_self ..), fun _ a => .inr a⟩) (List.forall_mem_cons.mpr ⟨hid, h.lt_resubQ⟩)

/-! ### creating and queueing operations -/

theorem createOp_fields (e : Engine) (p : Packet) (user : Option (Nat × Option Nat)) :
    (e.createOp p user).2 = e.nextOpId ∧ (e.createOp p user).1.nextOpId = e.nextOpId + 1 ∧ (e.createOp p user).1.userQ = e.userQ ∧
    (e.createOp p user).1.highQ = e.highQ ∧ (e.createOp p user).1.state = e.state ∧
    (e.createOp p user).1.ops.lookup e.nextOpId = some { id := e.nextOpId, packet := p, user := user } := by
  refine ⟨rfl, rfl, rfl, rfl, rfl, ?_⟩
  simp [Engine.createOp, lookup_mapInsert_self]

/-- `create_operation`: the new operation is tracked but not yet located -/
theorem createOp_step {S U : List Nat} (e : Engine) (p : Packet) (user : Option (Nat × Option Nat))
    (hk : user.isSome = true → isUserKind p = true) :
    PresAdd (user.map (·.1)).toList e (e.createOp p user).1 ∧
    (e.core.Ok → Big S U e.view → Big (e.nextOpId :: S) U (e.createOp p user).1.view) := by
  refine ⟨createOp_presAdd e p user hk, fun hok h => ?_⟩
  have hkeep : ∀ (o' : Op) i x, e.view.ops.lookup i = some x → (mapInsert e.ops e.nextOpId o').lookup i = some x :=
    fun o' i x hx => lookup_mapInsert_keep o' (Nat.ne_of_lt (hok.ids _ (mem_of_lookup hx)).2) hx
  show Big (e.nextOpId :: S) U { e.view with ops := mapInsert e.ops e.nextOpId { id := e.nextOpId, packet := p, user := user }, nextOpId := e.nextOpId + 1 }
  refine .of_entries { h.tab with
    p2 := fun q i hl => let ⟨x, hx, r⟩ := h.p2 q i hl; ⟨x, hkeep _ i x hx, r⟩
    tp := fun q i hl => let ⟨x, hx, r⟩ := h.tp q i hl; ⟨x, hkeep _ i x hx, r⟩
    tn := fun q i hl => let ⟨x, hx, r⟩ := h.tn q i hl; ⟨x, hkeep _ i x hx, r⟩
    qb := ⟨fun i hi => Nat.lt_succ_of_lt (h.qb.1 i hi), fun i hi => Nat.lt_succ_of_lt (h.qb.2 i hi)⟩ } fun i x hx => ?_
  rcases lookup_mapInsert_some hx with ⟨rfl, rfl⟩ | ⟨_, hx'⟩
  · -- the new operation has no packet id and no PUBREL, and its id is in no container yet
    have hh : e.nextOpId ∉ e.view.highQ := fun a => Nat.lt_irrefl _ (h.lt_highQ _ a)
    have hw : e.nextOpId ∉ e.view.pendingWC := fun a => Nat.lt_irrefl _ (h.lt_pendingWC _ a)
    have hc : e.view.current ≠ some e.nextOpId := fun a => Nat.lt_irrefl _ (h.qb.2 _ a)
    exact { p3 := nofun, p4 := nofun, n := nofun, wc := (absurd · hw), loc := .inr (List.mem_cons_self ..), pr := nofun,
            h2 := (absurd · hh), pr2 := (absurd · hh), h1 := fun _ a => (a.elim (fun b => (List.mem_append.mp b).elim hh hw) hc).elim,
            c1 := fun _ a => absurd a hc, f := fun _ a => absurd a hc }
  · exact { h.opOk hx' with loc := (h.loc i x hx').imp_right (List.mem_cons_of_mem _) }

/-- queueing a freshly created internal operation in the high-priority queue (front or back) -/
theorem big_enqueue_high {S U : List Nat} (e1 : Engine) (id : Nat) (o : Op) (front : Bool) (h : Big (id :: S) U e1.view)
    (ho : e1.ops.lookup id = some o) (hid : id < e1.nextOpId)
    (hpc : e1.state = .pendingConnack → isConnectPacket o.packet = true)
    (hnp : isAckedPublish o.packet = false) (hpr : o.pubrel = none) :
    Big S U ({ e1 with highQ := if front then id :: e1.highQ else e1.highQ ++ [id] } : Engine).view := by
  have hmem : ∀ i, i ∈ (if front then id :: e1.highQ else e1.highQ ++ [id]) ↔ i = id ∨ i ∈ e1.highQ := by
    intro i; cases front <;> simp [or_comm]
  have hall : ∀ {P : Nat → Prop}, P id → (∀ i ∈ e1.highQ, P i) → ∀ i ∈ (if front then id :: e1.highQ else e1.highQ ++ [id]), P i :=
    fun h1 h2 i hi => ((hmem i).mp hi).elim (· ▸ h1) (h2 i)
  have hox : ∀ {x}, e1.view.ops.lookup id = some x → x = o := fun hx => Option.some.inj (hx.symm.trans ho)
  exact h.setHighQ _ (fun i hi => .inl ((hmem i).mpr (.inr hi)))
    (List.forall_mem_cons.mpr ⟨.inl ((hmem id).mpr (.inl rfl)), fun i a => .inr a⟩) (hall hid h.lt_highQ)
    (hall (fun x hx hk => by cases hox hx; rw [hnp] at hk; cases hk) h.h2)
    (hall (fun x hx hk => by cases hox hx; rw [hpr] at hk; cases hk) h.pr2)
    (fun hd => hall (fun x hx => by cases hox hx; exact hpc hd) (fun i a => (h.h1 hd).1 i (List.mem_append_left _ a)))

/-! ### user events -/

theorem passesPolicy_disconnect (d : Disconnect) (pol : OfflinePolicy) : passesPolicy (.disconnect d) pol = false := rfl

/-- the two ways `handle_user_event` submits: a user operation to the back of the user queue, a DISCONNECT to the
    high-priority queue -/
theorem submit_stp {S U : List Nat} (e : Engine) (p : Packet) (user : Option (Nat × Option Nat)) (q : QueueKind) (front : Bool)
    (hk : user.isSome = true → isUserKind p = true)
    (hq : (q = .user ∧ front = false) ∨ (q = .high ∧ (∃ d, p = .disconnect d))) :
    PresAdd (user.map (·.1)).toList e (e.submit p user q front).1 ∧
    (e.core.Ok → Big S U e.view → Big S U (e.submit p user q front).1.view) := by
  refine ⟨submit_presAdd e p user q front hk, fun hok h => ?_⟩
  obtain ⟨hpa, hcr⟩ := createOp_step (S := S) (U := U) e p user hk
  have h1 := hcr hok h
  obtain ⟨-, f2, -, -, -, f6⟩ := createOp_fields e p user
  have hid : e.nextOpId < (e.createOp p user).1.nextOpId := by rw [f2]; exact Nat.lt_succ_self _
  rw [submit_eq]
  refine fst_ite (fun x : Engine => Big S U x.view) (fun _ => ?_) (fun hpass => ?_)
  · exact (completeFailure_step_drop (S := S) (U := U) (e.createOp p user).1 e.nextOpId "OfflineQueuePolicyFailed").keeps (hpa.core hok) h1
  · rcases hq with ⟨rfl, rfl⟩ | ⟨rfl, d, rfl⟩
    · exact h1.pushUserBack hid
    · -- a DISCONNECT is accepted only while connected
      have hconn : (e.createOp (.disconnect d) user).1.state = .connected := by
        have hp : (e.createOp (.disconnect d) user).1.opPassesPolicy (.disconnect d) = true := by simpa using hpass
        unfold Engine.opPassesPolicy at hp
        refine Classical.byContradiction fun hc => ?_
        rw [if_neg (by simpa using hc)] at hp
        cases hp
      exact big_enqueue_high (e.createOp (.disconnect d) user).1 e.nextOpId _ front h1 f6 hid
        (by rw [hconn]; nofun) rfl rfl

theorem handleUser_stp {S U : List Nat} (e : Engine) (u : UserEvent) :
    PresAdd u.idx e (e.handleUser u).1 ∧ (e.core.Ok → Big S U e.view → Big S U (e.handleUser u).1.view) := by
  cases u with
  | publish p i t => exact submit_stp e (.publish p) (some (i, t)) .user false (fun _ => rfl) (.inl ⟨rfl, rfl⟩)
  | subscribe p i t => exact submit_stp e (.subscribe p) (some (i, t)) .user false (fun _ => rfl) (.inl ⟨rfl, rfl⟩)
  | unsubscribe p i t => exact submit_stp e (.unsubscribe p) (some (i, t)) .user false (fun _ => rfl) (.inl ⟨rfl, rfl⟩)
  | disconnect p => exact submit_stp e (.disconnect p) none .high true (by simp) (.inr ⟨rfl, p, rfl⟩)

/-! ### updates of one operation -/

theorem setDup_class (p : Packet) (v : Bool) :
    pktPid (setDup p v) = pktPid p ∧ needsPacketId (setDup p v) = needsPacketId p ∧ isAckedPublish (setDup p v) = isAckedPublish p ∧
    isSubOrUnsub (setDup p v) = isSubOrUnsub p ∧ isConnectPacket (setDup p v) = isConnectPacket p := by
  cases p <;> exact ⟨rfl, rfl, rfl, rfl, rfl⟩

/-- DUP is set on a publish; other packets are left as they are -/
theorem setDup_dup (p : Packet) : pktDup (setDup p true) = true ∨ (setDup p true = p ∧ isAckedPublish p = false ∧ pktDup p = false) := by
  cases p with
  | publish _ => exact .inl rfl
  | _ => exact .inr ⟨rfl, rfl, rfl⟩

theorem setOp_view (e : Engine) (o : Op) : (e.setOp o).view = { e.view with ops := mapInsert e.ops o.id o } := rfl

theorem setOp_lookup (en : Engine) (hok : en.core.Ok) (id : Nat) (o o' : Op) (ho : en.op? id = some o) (hid' : o'.id = o.id) (j : Nat) (x' : Op)
    (h : (en.setOp o').ops.lookup j = some x') : (j = id ∧ x' = o') ∨ (j ≠ id ∧ en.ops.lookup j = some x') := by
  have hid := hok.id_eq (show en.core.ops.lookup id = some o from ho)
  simp only [Engine.setOp] at h
  rw [hid', hid, lookup_mapInsert] at h
  split at h
  · rename_i hj; cases h; exact .inl ⟨hj, rfl⟩
  · rename_i hj; exact .inr ⟨hj, h⟩

/-- `set_publish_duplicate_flag`: the flag may always be set; it may be cleared on an operation that is about to be restarted -/
theorem setDupFlag_stp {S U : List Nat} (e : Engine) (id : Nat) (v : Bool) (hU : v = false → id ∈ U) :
    Stp S U S U e (e.setDupFlag id v) := by
  refine ⟨setDupFlag_pres e id v, fun hok h => ?_⟩
  rcases setDupFlag_cases e id v with ⟨_, he⟩ | ⟨o, ho, he⟩ <;> rw [he]
  · exact h
  · obtain rfl := hok.id_eq ho
    rw [setOp_view]
    obtain ⟨c1, c2, c3, c4, c5⟩ := setDup_class o.packet v
    have k := h.opOk (show e.view.ops.lookup o.id = some o from ho)
    refine h.replace (o' := { o with packet := setDup o.packet v }) ho rfl c1 c2 c3 c4 c5 (fun hp => ?_)
      (fun hi hk => k.h2 hi (c3.symm.trans hk)) k.pr2
    cases v with
    | false => exact .inr (.inr (hU rfl))
    | true => exact (setDup_dup o.packet).elim .inl fun hd => (k.pr hp).imp_left (congrArg pktDup hd.1).trans

theorem setDupFlag_false_stp {S U : List Nat} (e : Engine) (id : Nat) (hU : id ∈ U) : Stp S U S U e (e.setDupFlag id false) :=
  setDupFlag_stp e id false fun _ => hU

/-- `clear_qos2_state` of an operation that is not waiting in the high-priority queue as a publish -/
theorem clearQos2_stp {S U : List Nat} (e : Engine) (id : Nat)
    (hq : id ∈ e.highQ → ∀ o, e.op? id = some o → isAckedPublish o.packet = false) : Stp S U S U e (e.clearQos2 id) := by
  refine ⟨clearQos2_pres e id, fun hok h => ?_⟩
  rcases clearQos2_cases e id with ⟨_, he⟩ | ⟨o, ho, he⟩ <;> rw [he]
  · exact h
  · obtain rfl := hok.id_eq ho
    rw [setOp_view]
    exact h.replace (o' := { o with pubrel := none }) (show e.view.ops.lookup o.id = some o from ho) rfl rfl rfl rfl rfl rfl
      nofun (fun hi hk => absurd ((hq hi o ho).symm.trans hk) Bool.false_ne_true) nofun

/-! ### packet ids: allocation and unbinding -/

theorem withPacketId_class (p : Packet) (n : Nat) :
    needsPacketId (withPacketId p n) = needsPacketId p ∧ isAckedPublish (withPacketId p n) = isAckedPublish p ∧
    isSubOrUnsub (withPacketId p n) = isSubOrUnsub p ∧ isConnectPacket (withPacketId p n) = isConnectPacket p ∧
    pktDup (withPacketId p n) = pktDup p ∧ (needsPacketId p = true → pktPid (withPacketId p n) = n) := by
  cases p with
  | publish _ | subscribe _ | unsubscribe _ => exact ⟨rfl, rfl, rfl, rfl, rfl, fun _ => rfl⟩
  | _ => exact ⟨rfl, rfl, rfl, rfl, rfl, nofun⟩

/-- binding a free packet id to an operation that needs one -/
theorem Big.bind {S U : List Nat} {v : View} (h : Big S U v) {id pid : Nat} {o : Op} (ho : v.ops.lookup id = some o)
    (hnone : o.packetId = none) (hneed : needsPacketId o.packet = true) (hfree : v.allocated.lookup pid = none)
    (hr : 1 ≤ pid ∧ pid ≤ 65535) (np : Nat) (hnp : 1 ≤ np ∧ np ≤ 65535) (hU : U = []) :
    Big S U { v with ops := mapInsert v.ops id { o with packetId := some pid, packet := withPacketId o.packet pid },
                     allocated := mapInsert v.allocated pid id, nextPacketId := np } := by
  obtain ⟨cn, ca, _, cc, cd, cp⟩ := withPacketId_class o.packet pid
  have k := h.opOk ho
  -- no table names `id`, which held no packet id
  have hnt : ∀ {i x q}, v.ops.lookup i = some x → x.packetId = some q → i ≠ id := by
    intro i x q hx hq hh; subst hh; rw [ho] at hx; cases hx; rw [hnone] at hq; cases hq
  refine .of_entries { h.tab with
    p1s := h.p1s.mapInsert _ _
    p1r := ⟨forall_mem_mapInsert hr h.p1r.1, hnp⟩
    p2 := fun q i hq => by
      rcases lookup_mapInsert_some hq with ⟨rfl, rfl⟩ | ⟨_, hq'⟩
      · exact ⟨_, lookup_mapInsert_self _ _ _, rfl⟩
      · obtain ⟨x, hx, hp⟩ := h.p2 q i hq'
        exact ⟨x, lookup_mapInsert_keep _ (hnt hx hp) hx, hp⟩
    tp := fun q i hq => let ⟨x, hx, hp, a⟩ := h.tp q i hq; ⟨x, lookup_mapInsert_keep _ (hnt hx hp) hx, hp, a⟩
    tn := fun q i hq => let ⟨x, hx, hp, a⟩ := h.tn q i hq; ⟨x, lookup_mapInsert_keep _ (hnt hx hp) hx, hp, a⟩ } fun i x hx => ?_
  rcases lookup_mapInsert_some hx with ⟨rfl, rfl⟩ | ⟨_, hx'⟩
  · exact { k with
      p3 := fun q hq => by cases hq; exact .inl (lookup_mapInsert_self _ _ _)
      p4 := fun q hq => by cases hq; exact cp hneed
      n := fun _ => cn.trans hneed
      wc := fun hi => absurd ((k.wc hi).symm.trans hneed) Bool.false_ne_true
      pr := fun a => (k.pr a).imp_left cd.trans
      h2 := fun hi a => k.h2 hi (ca.symm.trans a)
      h1 := fun hd hi => cc.trans (k.h1 hd hi)
      c1 := fun _ _ _ => rfl
      f := fun hd hi a => k.f hd hi (ca.symm.trans a) }
  · -- nobody else holds `pid`
    refine { h.opOk hx' with p3 := fun q hq => .inl ?_ }
    rcases h.p3 i x q hx' hq with h1 | h1
    · refine (lookup_mapInsert_ne _ _ _ _ ?_).trans h1
      intro hh; subst hh; rw [hfree] at h1; cases h1
    · rw [hU] at h1; cases h1.1

/-- `acquire_packet_id_for_operation` (normal operation: no exemptions) -/
theorem acquireIdFor_stp {S : List Nat} (e : Engine) (id : Nat) : Stp S [] S [] e (e.acquireIdFor id).1 := by
  refine ⟨acquireIdFor_pres e id, fun hok h => ?_⟩
  have hs := acquireLoop_sound e.allocated e.nextPacketId 65536 e.nextPacketId e.nextPacketId h.p1r.2 h.p1r.2
  rcases acquireIdFor_cases e id with ⟨_, hE⟩ | ⟨_, _, _, hE⟩ | ⟨o, next, ho, hneed, hnone, ⟨hl, hE⟩ | ⟨pid, hl, hE⟩⟩ <;> rw [hE]
  · exact h
  · exact h
  · rw [hl] at hs
    exact { h with p1r := ⟨h.p1r.1, hs.1⟩ }
  · rw [hl] at hs
    have hid := hok.id_eq (show e.core.ops.lookup id = some o from ho)
    subst hid
    have hp := hs.2 pid rfl
    exact h.bind (show e.view.ops.lookup o.id = some o from ho) hnone hneed hp.2 hp.1 next hs.1 rfl

/-- releasing the packet id of an operation that is in no pending table -/
theorem Big.unbind {S U : List Nat} {v : View} (h : Big S U v) {id pid : Nat} {o : Op} (ho : v.ops.lookup id = some o)
    (hp : o.packetId = some pid) (hnt : id ∉ vals v.pendingPub ∧ id ∉ vals v.pendingNonPub)
    (hcur : v.state = .connected → v.current = some id → needsPacketId o.packet = false) :
    Big S U { v with ops := mapInsert v.ops id { o with packetId := none, packet := withPacketId o.packet 0 },
                     allocated := mapErase v.allocated pid } := by
  obtain ⟨cn, ca, _, cc, cd, _⟩ := withPacketId_class o.packet 0
  have k := h.opOk ho
  refine .of_entries { h.tab with
    p1s := h.p1s.mapErase _
    p1r := ⟨fun x hx => h.p1r.1 x (mem_mapErase.mp hx).1, h.p1r.2⟩
    p2 := fun q i hq => by
      obtain ⟨hne, hq'⟩ := lookup_mapErase_some hq
      obtain ⟨x, hx, hpx⟩ := h.p2 q i hq'
      refine ⟨x, lookup_mapInsert_keep _ ?_ hx, hpx⟩
      intro hh; subst hh; rw [ho] at hx; cases hx; rw [hp] at hpx; cases hpx; exact hne rfl
    tp := fun q i hq => let ⟨x, hx, r⟩ := h.tp q i hq; ⟨x, lookup_mapInsert_keep _ (fun hh => hnt.1 (hh ▸ mem_vals_of_lookup hq)) hx, r⟩
    tn := fun q i hq => let ⟨x, hx, r⟩ := h.tn q i hq; ⟨x, lookup_mapInsert_keep _ (fun hh => hnt.2 (hh ▸ mem_vals_of_lookup hq)) hx, r⟩ }
    fun i x hx => ?_
  rcases lookup_mapInsert_some hx with ⟨rfl, rfl⟩ | ⟨hne, hx'⟩
  · exact { k with
      p3 := nofun
      p4 := nofun
      n := nofun
      wc := fun hi => cn.trans (k.wc hi)
      pr := fun a => (k.pr a).imp_left cd.trans
      h2 := fun hi a => k.h2 hi (ca.symm.trans a)
      h1 := fun hd hi => cc.trans (k.h1 hd hi)
      c1 := fun hd hi a => absurd ((hcur hd hi).symm.trans (cn.symm.trans a)) Bool.false_ne_true
      f := fun hd hi a => k.f hd hi (ca.symm.trans a) }
  · refine { h.opOk hx' with p3 := fun q hq => (h.p3 i x q hx' hq).imp (fun h1 => ?_) (fun h1 => ⟨h1.1, by rw [h1.2.1]; rfl, h1.2.2⟩) }
    -- `pid` was held by `id` alone
    refine (lookup_mapErase_ne _ _ _ ?_).trans h1
    intro hh; subst hh
    rcases k.p3 q hp with h2 | h2
    · rw [h1] at h2; cases h2; exact hne rfl
    · rw [h2.2.1] at h1; cases h1

/-- `unbind_operation_packet_id` of an operation that is in no pending table -/
theorem unbind_stp {S U : List Nat} (e : Engine) (id : Nat)
    (hnt : id ∉ vals e.pendingPub ∧ id ∉ vals e.pendingNonPub)
    (hcur : e.state = .connected → e.current = some id → ∀ o, e.op? id = some o → needsPacketId o.packet = false) :
    Stp S U S U e (e.unbind id) := by
  refine ⟨unbind_pres e id, fun hok h => ?_⟩
  rcases unbind_cases e id with ⟨_, he⟩ | ⟨o, pid, ho, hp, he⟩ <;> rw [he]
  · exact h
  · obtain rfl := hok.id_eq ho
    exact h.unbind (show e.view.ops.lookup o.id = some o from ho) hp hnt (fun hd hc => hcur hd hc o ho)

/-! ### rewriting marks on every operation (slow start, interruption counts) -/

theorem Big.mapOps {S U : List Nat} {v : View} (h : Big S U v) (g : Nat → Op → Op)
    (hg : ∀ id o, (g id o).packet = o.packet ∧ (g id o).packetId = o.packetId ∧ (g id o).pubrel = o.pubrel) :
    Big S U { v with ops := v.ops.map (fun x => (x.1, g x.1 x.2)) } := by
  refine h.setOps _ (fun i x hx => ?_)
    (fun i y hy => ⟨g i y, by rw [lookup_mapOps, hy]; rfl, (hg i y).2.1, by rw [(hg i y).1], by rw [(hg i y).1]⟩)
  rw [lookup_mapOps] at hx
  cases hy : v.ops.lookup i with
  | none => rw [hy] at hx; cases hx
  | some y =>
    rw [hy] at hx; cases hx
    obtain ⟨e1, e2, e3⟩ := hg i y
    have k := h.opOk hy
    exact k.like e2 (by rw [e1]) (by rw [e1]) (by rw [e1]) (by rw [e1]) (by rw [e1, e3]; exact k.pr) (by rw [e1, e3]; exact k.h2)
      (by rw [e3]; exact k.pr2)

/-- the invariant reads neither mark -/
theorem Remarked.big {S U : List Nat} {e e' : Engine} (h : Remarked e e') (hb : Big S U e.view) : Big S U e'.view := by
  obtain ⟨g, hg, rfl⟩ := h
  refine hb.mapOps g fun id o => ?_
  obtain ⟨s, n, h⟩ := hg id o
  rw [h]; exact ⟨rfl, rfl, rfl⟩

/-! ### connection opened -/

/-- `handle_network_event_connection_opened` -/
theorem handleOpened_stp (e : Engine) (d : Nat) (hD : D1 e.view) : Stp [] [] [] [] e (e.handleOpened d).1 := by
  refine ⟨handleOpened_pres e d, fun hok h => ?_⟩
  rw [handleOpened_eq]
  refine fst_ite (fun x : Engine => Big [] [] x.view) (fun _ => h.halt) (fun hst => ?_)
  obtain ⟨d1a, d1b, d1c, d1d, d1e, d1f⟩ := hD (show e.state = .disconnected by simpa using hst)
  -- the handshake state with nothing in flight
  have h1 : Big [] [] e.opening.view :=
    (h.clearCurrent_none d1a).setState .pendingConnack
      (fun _ => ⟨List.forall_mem_append.mpr ⟨by rw [show _ = ([] : List Nat) from d1b]; nofun, by rw [show _ = ([] : List Nat) from d1e]; nofun⟩,
        nofun, d1c, d1d, d1f⟩) nofun nofun
  have hok1 : e.opening.core.Ok := ((Pres.of_core_conn (e := e) false rfl (by simp)) hok).1
  generalize e.opening = e1 at h1 hok1 ⊢
  obtain ⟨-, f2, -, -, -, f6⟩ := createOp_fields e1 e1.createConnect none
  have h2 := (createOp_step (S := []) (U := []) e1 e1.createConnect none (by simp)).2 hok1 h1
  have hconn : isConnectPacket e1.createConnect = true ∧ isAckedPublish e1.createConnect = false := by
    unfold Engine.createConnect; simp only []; split <;> exact ⟨rfl, rfl⟩
  have h3 := big_enqueue_high (e1.createOp e1.createConnect none).1 e1.nextOpId _ true h2 f6
    (by rw [f2]; exact Nat.lt_succ_self _) (fun _ => hconn.1) hconn.2 rfl
  generalize (e1.createOp e1.createConnect none).1 = e2 at h3 ⊢
  exact h3.setUnread true e2.cfg.policy

/-! ### connection closed: the operation being written -/

theorem completeFailure_result (e : Engine) (id : Nat) (k : String) (hok : e.core.Ok) :
    (e.completeFailure id k).2 = .ok ∨
    (∃ o, e.op? id = some o ∧ isDisconnect o.packet = true ∧ (e.completeFailure id k).2 = .err "UserInitiatedDisconnect") := by
  cases ho : e.op? id with
  | none => rw [completeFailure_none k ho]; exact .inl rfl
  | some o =>
    obtain ⟨_, _, _, _, _, hfull⟩ := completeFailure_full e id k ho
    have hr := (hfull (hok.slow_ge ho)).2.2
    by_cases hd : isDisconnect o.packet = true
    · rw [if_pos hd] at hr; exact .inr ⟨o, rfl, hd, hr⟩
    · rw [if_neg hd] at hr; exact .inl hr

/-- the operation being written fails: only a DISCONNECT's failure returns an error, and that one is forgiven, so the slot
    is cleared -/
theorem closeCurrent_failed (e : Engine) (hok : e.core.Ok) {id : Nat} {o : Op} (ho : e.op? id = some o) {k : String}
    (h : (isDisconnect o.packet = false ∧ e.closeCurrent = closeCurrentEnd (e.completeFailure id k)) ∨
      e.closeCurrent = closeCurrentEnd ((e.completeFailure id k).1, ignoreUserDisconnect (e.completeFailure id k).2)) :
    e.closeCurrent = ({ (e.completeFailure id k).1 with current := none }, .ok) := by
  have hr := completeFailure_result e id k hok
  generalize e.completeFailure id k = y at h hr ⊢
  obtain ⟨e1, r⟩ := y
  have hend : ∀ r', r' = Res.ok → closeCurrentEnd (e1, r') = ({ e1 with current := none }, .ok) := by
    intro r' hx; unfold closeCurrentEnd; rw [hx]; rfl
  rcases h with ⟨hnd, h1⟩ | h1 <;> rw [h1]
  · refine hend r (hr.resolve_right ?_)
    rintro ⟨o', ho', hd, _⟩
    rw [ho] at ho'; cases ho'; rw [hnd] at hd; cases hd
  · refine hend _ ?_
    rcases hr with a | ⟨_, _, _, a⟩ <;> (simp only [] at a; rw [a]; rfl)

/-- `apply_connection_closed_to_current_operation` (the engine is already marked Disconnected) returns no error and
    leaves the slot empty -/
theorem closeCurrent_big (e : Engine) (hst : e.state = .disconnected) (hok : e.core.Ok) (h : Big [] [] e.view) :
    e.closeCurrent.2 = .ok ∧ e.closeCurrent.1.current = none ∧ Big [] [] e.closeCurrent.1.view := by
  cases hc : e.current with
  | none => rw [closeCurrent_idle e (.inl hc)]; exact ⟨rfl, rfl, h.clearCurrent_none hc⟩
  | some id =>
    -- the slot is cleared: its operation is an exception until it sits somewhere else, or is gone
    have hx : Big [id] [] { e.view with current := none } := h.clearCurrent id hc
    have hidlt : id < e.view.nextOpId := h.qb.2 id hc
    cases ho : e.op? id with
    | none => rw [closeCurrent_idle e (.inr ⟨id, hc, ho⟩)]; exact ⟨rfl, rfl, hx.drop_untracked ho⟩
    | some o =>
      rcases closeCurrent_cases e hc ho with ⟨h1, _⟩ | ⟨p, hp, hd, ⟨hl, h1⟩ | ⟨_, h1⟩⟩ | ⟨p, hp, hd, hpr, h1⟩ | ⟨k, hk⟩
      rotate_right
      · -- the slot still names the failed operation, which is gone
        rw [closeCurrent_failed e hok ho hk]
        have he := completeFailure_erases e id k
        exact ⟨rfl, rfl, ((he.big h).clearCurrent id ((completeFailure_same e id k).current.trans hc)).drop_untracked he.untracks⟩
      all_goals rw [h1]; refine ⟨rfl, rfl, ?_⟩
      · exact hx.pushUserFront hidlt
      · exact hx.drop_located (.pendingPub (mem_vals_of_lookup hl))
      · exact hx.pushResubFront hidlt
      · -- a QoS 2 publish whose PUBREL was being written: still in the pending-publish table, as `pr` says
        have hdup : pktDup o.packet = false := by rw [hp]; exact hd
        refine hx.setHighQ (id :: e.highQ) (fun _ hi => .inl (List.mem_cons_of_mem _ hi))
          (List.forall_mem_singleton.mpr (.inl (List.mem_cons_self ..))) (List.forall_mem_cons.mpr ⟨hidlt, h.lt_highQ⟩)
          (List.forall_mem_cons.mpr ⟨fun x hx' _ => by cases Option.some.inj (hx'.symm.trans ho); exact hpr, h.h2⟩)
          (List.forall_mem_cons.mpr ⟨fun x hx' hk => ?_, h.pr2⟩)
          (fun hd' => by rw [show e.view.state = e.state from rfl, hst] at hd'; cases hd')
        cases Option.some.inj (hx'.symm.trans ho)
        exact ((h.pr id o ho hk).resolve_left (by rw [hdup]; exact Bool.false_ne_true)).resolve_right List.not_mem_nil

/-! ### connection closed, first stage (`closeFailStage`) -/

theorem failExceeding_stp {S U : List Nat} (e : Engine) : Stp S U S U e e.failExceeding.1 :=
  failExceeding_keeps (Stp S U S U e ·) (fun x id k hx => hx.trans (completeFailure_step x id k)) e (Stp.refl S U e)

/-- what the high-priority queue held and carried no PUBREL fails; the rest is in the pending-publish table, as `pr2` says -/
theorem closeFailHigh_big (e : Engine) (hok : e.core.Ok) (h : Big [] [] e.view) : Big [] [] e.closeFailHigh.1.view := by
  unfold Engine.closeFailHigh
  refine (failAllIgnoringDisconnect_step_drop (S := []) (U := []) _ _ _).keeps hok ?_
  refine (h.setHighQ [] (fun _ hi => .inr hi) nofun nofun nofun nofun nofun).shrink fun id hid => ?_
  by_cases hf : id ∈ e.highQ.filter (fun id => match e.op? id with | some o => o.pubrel.isNone | none => true)
  · exact .inl (List.mem_append_left _ hf)
  · right
    cases ho : e.op? id with
    | none => exact .inr ho
    | some o =>
      left
      have hpr : o.pubrel.isSome = true := by
        cases hp : o.pubrel with
        | some _ => rfl
        | none => exact absurd (List.mem_filter.mpr ⟨hid, by simp [ho, hp]⟩) hf
      exact .pendingPub (h.pr2 id hid o ho hpr)

/-- the members of `q` become the two parts `partitionByPolicy` makes of them: what it leaves out is untracked -/
theorem Big.partition {U : List Nat} {e : Engine} {q : List Nat} (h : Big q U e.view) :
    Big ((e.partitionByPolicy q).2 ++ (e.partitionByPolicy q).1) U e.view :=
  h.shrink fun id hid => by
    cases ho : e.op? id with
    | none => exact .inr (.inr ho)
    | some o => exact .inl (List.mem_append.mpr (partitionByPolicy_cover hid ho).symm)

/-- what was written but not flushed rejoins the user queue if the policy retains it, and fails otherwise -/
theorem closeFailUnflushed_big (e : Engine) (hok : e.core.Ok) (h : Big [] [] e.view) : Big [] [] e.closeFailUnflushed.1.view := by
  unfold Engine.closeFailUnflushed
  simp only []
  have hx : Big e.pendingWC [] ({ e with pendingWC := [] } : Engine).view := h.setPendingWC [] (fun _ hi => .inr hi) nofun nofun nofun nofun
  have hsub := (partition_sublist ({ e with pendingWC := [] } : Engine) e.pendingWC).1.subset
  have hp := hx.partition
  generalize ({ e with pendingWC := [] } : Engine).partitionByPolicy e.pendingWC = pr at hsub hp ⊢
  refine (failAllIgnoringDisconnect_step_drop (S := []) (U := []) _ _ _).keeps (Pres.of_core_wc (e := e) [] rfl (by simp) hok).1 ?_
  exact hp.setUserQ (e.userQ ++ pr.1) (fun _ hi => .inl (List.mem_append_left _ hi))
    (fun i hi => (List.mem_append.mp hi).symm.imp (List.mem_append_right _) (List.mem_append_left _))
    (List.forall_mem_append.mpr ⟨h.lt_userQ, fun i b => h.lt_pendingWC i (hsub b)⟩)

theorem closeFailStage_stp (e3 : Engine) : Stp [] [] [] [] e3 e3.closeFailStage.1 := by
  refine ⟨closeFailStage_pres e3, fun hok h => ?_⟩
  have hokh := (closeFailHigh_pres e3 hok).1
  rw [closeFailStage_eq]
  exact (failExceeding_stp (S := []) (U := []) _).keeps (closeFailUnflushed_pres _ hokh).1
    (closeFailUnflushed_big _ hokh (closeFailHigh_big e3 hok h))

theorem closeFailStage_highQ (e3 : Engine) : e3.closeFailStage.1.highQ = [] := by
  rw [closeFailStage_eq]
  exact (failExceeding_same _).highQ.trans
    ((failAllIgnoringDisconnect_same _ _ _).highQ.trans (failAllIgnoringDisconnect_same _ _ _).highQ)

/-! ### connection closed, second stage (`closeRequeueStage`) -/

/-- emptying the pending-publish table once every operation in it sits in another container and is marked DUP -/
theorem Big.clearPendingPub {S U : List Nat} {v : View} (h : Big S U v) (hns : v.state ≠ .connected) (hhq : v.highQ = [])
    (hq : ∀ id ∈ vals v.pendingPub, id ∈ v.resubQ ∧ ∀ o, v.ops.lookup id = some o → pktDup o.packet = true) :
    Big S U { v with pendingPub := [] } :=
  { h with
    tps := KeysSorted.nil
    tp := nofun
    loc := fun i x hx => (h.loc i x hx).imp_left fun a => by
      by_cases hp : i ∈ vals v.pendingPub
      · exact .resubQ (hq i hp).1
      · exact Located.mono a (·) (·) (·) (·) (·) (absurd · hp) (·)
    p3 := fun i x q hx hp => (h.p3 i x q hx hp).imp_right fun a => ⟨a.1, a.2.1, rfl, a.2.2.2⟩
    pr := fun i x hx hp => (h.pr i x hx hp).elim .inl fun a => a.elim (fun b => .inl ((hq i b).2 x hx)) (.inr ∘ .inr)
    pr2 := fun i hi => by rw [show ({ v with pendingPub := [] } : View).highQ = v.highQ from rfl, hhq] at hi; cases hi
    h1 := fun hd => let ⟨a, b, _, d⟩ := h.h1 hd; ⟨a, b, rfl, d⟩
    f := fun hd => absurd hd hns }

theorem Big.clearPendingNonPub {S U : List Nat} {v : View} (h : Big S U v) (hloc : ∀ id ∈ vals v.pendingNonPub, id ∈ v.userQ) :
    Big S U { v with pendingNonPub := [] } :=
  { h with
    tns := KeysSorted.nil
    tn := nofun
    loc := fun i x hx => (h.loc i x hx).imp_left fun a => by
      by_cases hp : i ∈ vals v.pendingNonPub
      · exact .userQ (hloc i hp)
      · exact Located.mono a (·) (·) (·) (·) (·) (·) (absurd · hp)
    p3 := fun i x q hx hp => (h.p3 i x q hx hp).imp_right fun a => ⟨a.1, a.2.1, a.2.2.1, rfl⟩
    h1 := fun hd => let ⟨a, b, c, _, e⟩ := h.h1 hd; ⟨a, b, c, rfl, e⟩ }

theorem setDupFlag_true_lookup (en : Engine) (hok : en.core.Ok) (id j : Nat) (x' : Op) (h : (en.setDupFlag id true).ops.lookup j = some x') :
    ∃ x, en.ops.lookup j = some x ∧ (pktDup x.packet = true → pktDup x'.packet = true) ∧
      (j = id → isAckedPublish x.packet = true → pktDup x'.packet = true) := by
  rcases setDupFlag_cases en id true with ⟨ho, he⟩ | ⟨o, ho, he⟩ <;> rw [he] at h
  · exact ⟨x', h, fun a => a, fun hj _ => by subst hj; cases ho.symm.trans h⟩
  · rcases setOp_lookup en hok id o { o with packet := setDup o.packet true } ho rfl j x' h with ⟨rfl, rfl⟩ | ⟨hj, hx⟩
    · rcases setDup_dup o.packet with a | ⟨_, b, c⟩
      · exact ⟨o, ho, fun _ => a, fun _ _ => a⟩
      · exact ⟨o, ho, fun x => absurd (c.symm.trans x) Bool.false_ne_true, fun _ x => absurd (b.symm.trans x) Bool.false_ne_true⟩
    · exact ⟨x', hx, fun a => a, fun hh => absurd hh hj⟩

/-- a fold keeps an invariant that may speak of the elements consumed so far -/
theorem foldl_consumed {α β} (f : β → α → β) (P : List α → β → Prop) (Q : α → Prop)
    (hstep : ∀ done b a, Q a → P done b → P (done ++ [a]) (f b a)) :
    ∀ (l done : List α) (b : β), (∀ a ∈ l, Q a) → P done b → P (done ++ l) (l.foldl f b)
  | [], done, b, _, h => by rw [List.append_nil]; exact h
  | a :: l, done, b, hq, h => by
    have := foldl_consumed f P Q hstep l (done ++ [a]) (f b a) (fun x hx => hq x (List.mem_cons_of_mem _ hx))
      (hstep done b a (hq a (List.mem_cons_self ..)) h)
    rwa [List.append_assoc] at this

/-- what the two re-queueing folds keep: `e` is the engine before the fold, `done` the ids handled so far, `Q` what holds of them -/
structure Requeued (e : Engine) (Q : Engine → Nat → Prop) (done : List Nat) (en : Engine) : Prop where
  ok : en.core.Ok
  big : Big [] [] en.view
  state : en.state = .disconnected
  pendingPub : en.pendingPub = e.pendingPub
  pendingNonPub : en.pendingNonPub = e.pendingNonPub
  highQ : en.highQ = e.highQ
  done : ∀ id ∈ done, Q en id

theorem requeuePubStep_keeps {e en : Engine} {done : List Nat} {x : Nat} (hx : x ∈ vals e.pendingPub)
    (r : Requeued e (fun en id => id ∈ en.resubQ ∧ ∀ o, en.ops.lookup id = some o → pktDup o.packet = true) done en) :
    Requeued e (fun en id => id ∈ en.resubQ ∧ ∀ o, en.ops.lookup id = some o → pktDup o.packet = true) (done ++ [x])
      (requeuePubStep en x) := by
  obtain ⟨fs, fp, fn, fh, _, fr⟩ := requeuePubStep_fields en x
  -- `x` is a tracked acknowledged publish
  obtain ⟨q, hq⟩ := lookup_of_mem_vals r.big.tps (show x ∈ vals en.pendingPub from r.pendingPub ▸ hx)
  obtain ⟨z, hz, _, hzk⟩ := r.big.tp q x hq
  refine ⟨((setDupFlag_pres en x true).trans (Pres.of_core_eq rfl) r.ok).1, ?_, fs.trans r.state, fp.trans r.pendingPub,
    fn.trans r.pendingNonPub, fh.trans r.highQ, fun id hid => ⟨?_, fun o ho => ?_⟩⟩
  · show Big [] [] { (en.setDupFlag x true).view with resubQ := en.resubQ ++ [x] }
    refine ((setDupFlag_stp en x true nofun).keeps r.ok r.big).setResubQ _ (fun i hi => .inl ?_) nofun ?_
    · rw [show (en.setDupFlag x true).view.resubQ = en.resubQ from (setDupFlag_same en x true).resubQ] at hi; exact List.mem_append_left _ hi
    · rw [show (en.setDupFlag x true).view.nextOpId = en.nextOpId from setDupFlag_nextOpId en x true]
      exact List.forall_mem_append.mpr ⟨r.big.lt_resubQ, List.forall_mem_singleton.mpr (r.ok.ids _ (mem_of_lookup hz)).2⟩
  · rw [fr]
    exact (List.mem_append.mp hid).elim (fun a => List.mem_append_left _ (r.done id a).1) (List.mem_append_right _)
  · obtain ⟨y, hy, hk1, hk2⟩ := setDupFlag_true_lookup en r.ok x id o ho
    rcases List.mem_append.mp hid with a | a
    · exact hk1 ((r.done id a).2 y hy)
    · cases List.mem_singleton.mp a
      cases Option.some.inj (hy.symm.trans hz)
      exact hk2 rfl hzk

theorem requeuePubs_big (e : Engine) (hok : e.core.Ok) (h : Big [] [] e.view) (hst : e.state = .disconnected) (hhq : e.highQ = []) :
    e.requeuePubs.core.Ok ∧ Big [] [] e.requeuePubs.view ∧ e.requeuePubs.state = .disconnected := by
  have fa := foldl_consumed requeuePubStep (Requeued e _) (· ∈ vals e.pendingPub) (fun _ _ _ => requeuePubStep_keeps)
    (vals e.pendingPub) [] e (fun _ a => a) ⟨hok, h, hst, rfl, rfl, rfl, nofun⟩
  rw [requeuePubs_comm]
  generalize (vals e.pendingPub).foldl requeuePubStep e = e' at fa
  refine ⟨fa.ok, ?_, fa.state⟩
  show Big [] [] { e'.view with pendingPub := [] }
  exact fa.big.clearPendingPub (by rw [show e'.view.state = e'.state from rfl, fa.state]; decide)
    (by rw [show e'.view.highQ = e'.highQ from rfl, fa.highQ]; exact hhq)
    fun id (hid : id ∈ vals e'.pendingPub) => fa.done id (fa.pendingPub ▸ hid)

theorem requeueSubStep_keeps {e en : Engine} {done : List Nat} {x : Nat} (hx : x ∈ vals e.pendingNonPub)
    (r : Requeued e (fun en id => id ∈ en.userQ) done en) : Requeued e (fun en id => id ∈ en.userQ) (done ++ [x]) (requeueSubStep en x) := by
  obtain ⟨q, hq⟩ := lookup_of_mem_vals r.big.tns (show x ∈ vals en.pendingNonPub from r.pendingNonPub ▸ hx)
  obtain ⟨z, hz, _⟩ := r.big.tn q x hq
  exact { r with
    big := r.big.setUserQ (x :: en.userQ) (fun _ hi => .inl (List.mem_cons_of_mem _ hi)) nofun
      (List.forall_mem_cons.mpr ⟨(r.ok.ids _ (mem_of_lookup hz)).2, r.big.lt_userQ⟩)
    done := fun id hid => (List.mem_append.mp hid).elim (fun a => List.mem_cons_of_mem _ (r.done id a))
      (fun a => List.mem_singleton.mp a ▸ List.mem_cons_self ..) }

theorem requeueSubs_big (e : Engine) (hok : e.core.Ok) (h : Big [] [] e.view) (hst : e.state = .disconnected) :
    e.requeueSubs.core.Ok ∧ Big [] [] e.requeueSubs.view := by
  have fb := foldl_consumed requeueSubStep (Requeued e _) (· ∈ vals e.pendingNonPub) (fun _ _ _ => requeueSubStep_keeps)
    (vals e.pendingNonPub) [] e (fun _ a => a) ⟨hok, h, hst, rfl, rfl, rfl, nofun⟩
  rw [requeueSubs_comm]
  generalize (vals e.pendingNonPub).foldl requeueSubStep e = e' at fb
  refine ⟨fb.ok, ?_⟩
  show Big [] [] { e'.view with pendingNonPub := [] }
  exact fb.big.clearPendingNonPub fun id (hid : id ∈ vals e'.pendingNonPub) => fb.done id (fb.pendingNonPub ▸ hid)

theorem filterUserQ_big (e : Engine) (hok : e.core.Ok) (h : Big [] [] e.view) : Big [] [] e.filterUserQ.1.view := by
  obtain ⟨pr, y, hpr, hy, heq⟩ := filterUserQ_cases e
  rw [heq]
  have hx : Big e.userQ [] ({ e with userQ := [] } : Engine).view := h.setUserQ [] (fun _ hi => .inr hi) nofun nofun
  have hsub := (partition_sublist ({ e with userQ := [] } : Engine) e.userQ).1.subset
  have hp := hx.partition
  rw [← hpr] at hsub hp
  have hf := (failAll_step_drop (S := pr.1) (U := []) ({ e with userQ := [] } : Engine) pr.2 "OfflineQueuePolicyFailed").keeps hok hp
  have hsame := failAll_same "OfflineQueuePolicyFailed" pr.2 ({ e with userQ := [] } : Engine)
  rw [← hy] at hf hsame
  show Big [] [] { y.1.view with userQ := y.1.userQ ++ pr.1 }
  refine hf.setUserQ (y.1.userQ ++ pr.1) (fun i hi => .inl (List.mem_append_left _ hi)) (fun i hi => .inl (List.mem_append_right _ hi)) ?_
  intro i hi
  rw [show y.1.view.nextOpId = y.1.nextOpId from rfl, hsame.nextOpId]
  rcases List.mem_append.mp hi with b | b
  · rw [hsame.userQ] at b; cases b
  · exact h.lt_userQ i (hsub b)

theorem closeRequeueStage_stp (e : Engine) (hst : e.state = .disconnected) (hhq : e.highQ = []) :
    Stp [] [] [] [] e e.closeRequeueStage.1 := by
  refine ⟨closeRequeueStage_pres e, fun hok h => ?_⟩
  obtain ⟨hokp, hp, hstp⟩ := requeuePubs_big e hok h hst hhq
  obtain ⟨hoks, hs⟩ := requeueSubs_big _ hokp hp hstp
  rw [closeRequeueStage_eq]
  exact filterUserQ_big _ hoks hs

/-! ### connection closed: what the stages leave empty -/

/-- the containers a Disconnected engine must have empty, except the two pending tables -/
structure Quiet (e : Engine) : Prop where
  current : e.current = none
  highQ : e.highQ = []
  pendingWC : e.pendingWC = []
  timeouts : e.timeouts = []

theorem completeFailure_tables (e : Engine) (id : Nat) (k : String) :
    (e.pendingPub = [] → (e.completeFailure id k).1.pendingPub = []) ∧ (e.pendingNonPub = [] → (e.completeFailure id k).1.pendingNonPub = []) := by
  rcases completeFailure_erases e id k with ⟨_, h⟩ | ⟨o, s', _, hv, _⟩
  · rw [h]; exact ⟨fun h => h, fun h => h⟩
  · have h1 : (e.completeFailure id k).1.pendingPub = releaseFrom e.pendingPub o.packetId := congrArg View.pendingPub hv
    have h2 : (e.completeFailure id k).1.pendingNonPub = releaseFrom e.pendingNonPub o.packetId := congrArg View.pendingNonPub hv
    exact ⟨fun h => h1.trans (releaseFrom_nil h _), fun h => h2.trans (releaseFrom_nil h _)⟩

theorem completeFailure_quiet (e : Engine) (id : Nat) (k : String) (h : Quiet e) : Quiet (e.completeFailure id k).1 :=
  ⟨(completeFailure_same e id k).current.trans h.current, (completeFailure_same e id k).highQ.trans h.highQ,
   (completeFailure_ops e id k).2.1.trans h.pendingWC, (completeFailure_same e id k).timeouts.trans h.timeouts⟩

/-- after the first stage: no current operation (given), nothing in the high-priority queue, nothing unflushed -/
theorem closeFailStage_quiet (e3 : Engine) (hc : e3.current = none) (ht : e3.timeouts = []) : Quiet e3.closeFailStage.1 := by
  rw [closeFailStage_eq]
  have hs : SameClock e3.closeFailHigh.1 { e3 with highQ := [] } := failAllIgnoringDisconnect_same _ _ _
  refine failExceeding_keeps Quiet completeFailure_quiet _
    (failAllIgnoringDisconnect_keeps Quiet _ _ (fun x id _ => completeFailure_quiet x id _) _ ?_)
  exact ⟨hs.current.trans hc, hs.highQ, rfl, hs.timeouts.trans ht⟩

theorem setDupFlag_quiet (en : Engine) (id : Nat) (v : Bool) (h : Quiet en) : Quiet (en.setDupFlag id v) := by
  rcases setDupFlag_cases en id v with ⟨_, he⟩ | ⟨o, _, he⟩ <;> rw [he]
  · exact h
  · exact ⟨h.current, h.highQ, h.pendingWC, h.timeouts⟩

theorem requeueSubs_tables (e : Engine) (h : e.pendingPub = []) : e.requeueSubs.pendingPub = [] ∧ e.requeueSubs.pendingNonPub = [] := by
  rw [requeueSubs_comm]
  exact ⟨foldl_preserves requeueSubStep (·.pendingPub = []) (fun _ _ hx => hx) _ _ h, rfl⟩

/-- after the second stage: still quiet, and both pending tables are empty -/
theorem closeRequeueStage_quiet (e9 : Engine) (h : Quiet e9) :
    Quiet e9.closeRequeueStage.1 ∧ e9.closeRequeueStage.1.pendingPub = [] ∧ e9.closeRequeueStage.1.pendingNonPub = [] := by
  refine ⟨closeRequeueStage_keeps Quiet completeFailure_quiet (fun x id hx => setDupFlag_quiet x id true hx)
    (fun _ _ _ _ _ hx => ⟨hx.current, hx.highQ, hx.pendingWC, hx.timeouts⟩) e9 h, ?_⟩
  rw [closeRequeueStage_eq]
  exact filterUserQ_keeps (fun en => en.pendingPub = [] ∧ en.pendingNonPub = [])
    (fun x id _ hx => ⟨(completeFailure_tables x id _).1 hx.1, (completeFailure_tables x id _).2 hx.2⟩) (fun _ _ hx => hx) _
    (requeueSubs_tables _ (by rw [requeuePubs_comm]))

/-! ### connection closed: the whole handler -/

theorem pending_all_tracked {S U : List Nat} (e : Engine) (h : Big S U e.view) :
    ((e.pendingNonPub.map (·.2)) ++ (e.pendingPub.map (·.2))).all (fun id => (e.ops.lookup id).isSome) = true := by
  rw [List.all_eq_true]
  intro id hid
  have : ∃ o, e.ops.lookup id = some o := by
    rcases List.mem_append.mp hid with a | a
    · obtain ⟨q, hq⟩ := lookup_of_mem_vals h.tns (show id ∈ vals e.view.pendingNonPub from a)
      exact let ⟨o, ho, _⟩ := h.tn q id hq; ⟨o, ho⟩
    · obtain ⟨q, hq⟩ := lookup_of_mem_vals h.tps (show id ∈ vals e.view.pendingPub from a)
      exact let ⟨o, ho, _⟩ := h.tp q id hq; ⟨o, ho⟩
  obtain ⟨o, ho⟩ := this
  rw [ho]; rfl

theorem closing_ok (e : Engine) (hinv : Inv e) : e.closing.core.Ok ∧ Big [] [] e.closing.view :=
  ⟨((Pres.of_core_conn_to (e := e) false [] rfl (by simp) (by simp)) hinv.1).1,
    show Big [] [] { e.view with state := .disconnected, noTimeouts := true, connackSet := false } from
      { hinv.2.1 with h1 := nofun, c1 := nofun, f := nofun }⟩

/-- **The close handler up to its two stages.**  From a non-Disconnected engine satisfying the invariant the handler marks
    the engine Disconnected (`e0`), re-files or fails the operation being written (`e1`), sets the slow-start marks (`e2`)
    and the interruption counts (`e3`) - none of the three `unwrap()`s fires - and then runs the two stages from `e3`,
    which satisfies the invariant's first two layers, is Disconnected, writes nothing and has no timeout records. -/
theorem handleClosedCore_mid (e : Engine) (hinv : Inv e) (hs : e.state ≠ .disconnected) :
    ∃ e1 e2 e3, e.closing.closeCurrent = (e1, .ok) ∧
      e1.slowStartInit = some e2 ∧ e2.updateInterrupted = some e3 ∧
      e.handleClosedCore = (e3.closeFailStage.1.closeRequeueStage.1,
        e3.closeFailStage.2.fold e3.closeFailStage.1.closeRequeueStage.2) ∧
      e3.core.Ok ∧ Big [] [] e3.view ∧ e3.state = .disconnected ∧ e3.current = none ∧ e3.timeouts = [] := by
  obtain ⟨hok0, h0⟩ := closing_ok e hinv
  have hst0 : e.closing.state = .disconnected := rfl
  generalize he0 : e.closing = e0 at hok0 h0 hst0 ⊢
  have hr1 := closeCurrent_big e0 hst0 hok0 h0
  have hst1 : e0.closeCurrent.1.state = .disconnected := (closeCurrent_state e0 (by rw [hst0]; decide)).trans hst0
  have ht1 : e0.closeCurrent.1.timeouts = [] := (closeCurrent_timeouts e0).trans (by rw [← he0]; rfl)
  have hok1 := (closeCurrent_pres e0 hok0).1
  generalize hx1 : e0.closeCurrent = x1 at hok1 hr1 hst1 ht1 ⊢
  obtain ⟨e1, r1⟩ := x1
  simp only [] at hok1 hr1 hst1 ht1
  obtain ⟨rfl, hc1, h1⟩ := hr1
  obtain ⟨e2, hss⟩ := (remarkingPasses_some (pending_all_tracked e1 h1)).1
  have m2 := slowStartInit_remarked hss
  obtain ⟨e3, hui⟩ := (remarkingPasses_some (pending_all_tracked e2 (m2.big h1))).2
  have m3 := updateInterrupted_remarked hui
  have hok3 := (m3.pres (by rw [m2.state, hst1]; decide) (m2.pres (by rw [hst1]; decide) hok1).1).1
  have h3 := m3.big (m2.big h1)
  obtain ⟨_, _, rfl⟩ := m2
  obtain ⟨_, _, rfl⟩ := m3
  exact ⟨e1, _, _, rfl, hss, hui, handleClosedCore_eq hs (he0 ▸ hx1) hss hui, hok3, h3, hst1, hc1, ht1⟩

/-- **`handle_network_event_connection_closed` keeps the invariant and leaves a clean Disconnected engine.** -/
theorem handleClosedCore_inv (e : Engine) (hinv : Inv e) : Inv e.handleClosedCore.1 := by
  by_cases hs : e.state = .disconnected
  · rw [handleClosedCore_idle hs]; exact hinv
  obtain ⟨_, _, e3, -, -, -, heq, hok3, h3, hst3, hc3, ht3⟩ := handleClosedCore_mid e hinv hs
  rw [heq]
  have sf := closeFailStage_stp e3
  have qf := closeFailStage_quiet e3 hc3 ht3
  have hstf := closeFailStage_state e3 hst3
  have sr := closeRequeueStage_stp _ hstf qf.highQ
  have qr := closeRequeueStage_quiet _ qf
  have hstr := closeRequeueStage_state _ hstf
  generalize e3.closeFailStage.1.closeRequeueStage.1 = e' at qr hstr sr
  refine ⟨((sf.trans sr).pres hok3).1, (sf.trans sr).keeps hok3 h3, fun _ => ?_, fun hc => ?_⟩
  · exact ⟨qr.1.current, qr.1.highQ, qr.2.1, qr.2.2, qr.1.pendingWC, by
      show e'.timeouts.isEmpty = true
      rw [qr.1.timeouts]; rfl⟩
  · rw [show e'.view.state = e'.state from rfl, hstr] at hc; cases hc

/-! ### write completion -/

theorem succeedAll_big_drop {S U : List Nat} (ids : List Nat) (e : Engine) (h : Big (ids ++ S) U e.view) :
    Big S U (e.succeedAll ids).1.view :=
  succeedAll_ind (fun T x => Big (T ++ S) U x.1.view) ids (fun _ x _ id _ h => (completeSuccess_erases x id none).big_drop h) e h

theorem handleWriteCompletion_stp (e : Engine) : Stp [] [] [] [] e e.handleWriteCompletion.1 := by
  refine ⟨handleWriteCompletion_pres e, fun hok h => ?_⟩
  refine handleWriteCompletion_elim (fun x => Big [] [] x.1.view) e h (fun _ => h.halt) fun _ => ?_
  refine succeedAll_big_drop e.pendingWC _ ?_
  show Big (e.pendingWC ++ []) [] { e.view with pendingWC := [] }
  rw [List.append_nil]
  exact h.setPendingWC [] (fun i hi => .inr hi) nofun nofun nofun nofun

end GV
