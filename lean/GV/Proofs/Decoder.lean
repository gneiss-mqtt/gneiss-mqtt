/-
  Proofs/Decoder.lean — the incremental framer as a byte machine: feeding is a monoid action
  (append law), hence every chunking of a stream yields the same packets, verdict and state.
-/
import GV.Model.Decode
namespace GV

/-- `r`, then (unless `r` already failed) `k` run from the decoder `r` left; the packets of both in order -/
def FeedResult.andThen (r : FeedResult) (k : Decoder → FeedResult) : FeedResult :=
  match r.err with
  | some _ => r
  | none => let r2 := k r.dec; { dec := r2.dec, packets := r.packets ++ r2.packets, err := r2.err }

theorem feed_nil (cfg : DecodeCfg) (d : Decoder) : feed cfg d [] = { dec := d, packets := [], err := none } := rfl

/-- Append law: feeding `a ++ b` is feeding `a`, then (unless `a` already failed) feeding `b`. -/
theorem feed_append (cfg : DecodeCfg) (d : Decoder) (a b : Bytes) :
    feed cfg d (a ++ b) = (feed cfg d a).andThen (fun d' => feed cfg d' b) := by
  induction a generalizing d with
  | nil =>
    rw [List.nil_append, feed_nil]
    rfl
  | cons x xs ih =>
    simp only [List.cons_append, feed]
    rcases h : stepByte cfg d x with ⟨d', ps, e⟩
    cases e with
    | some e => rfl
    | none =>
      simp only
      rw [ih d']
      rcases feed cfg d' xs with ⟨dr, pr, er⟩
      cases er with
      | some e2 => rfl
      | none => simp only [FeedResult.andThen, List.append_assoc]

/-- feeding a list of chunks one after the other (a failed decoder ignores the rest) -/
def feedChunksB (cfg : DecodeCfg) : Decoder → List Bytes → FeedResult
  | d, [] => { dec := d, packets := [], err := none }
  | d, c :: cs => (feed cfg d c).andThen (fun d' => feedChunksB cfg d' cs)

/-- Chunking invariance: any partition of a stream gives the result of the unsplit stream. -/
theorem feedChunks_eq_feed_flatten (cfg : DecodeCfg) (d : Decoder) (chunks : List Bytes) :
    feedChunksB cfg d chunks = feed cfg d chunks.flatten := by
  induction chunks generalizing d with
  | nil => rfl
  | cons c cs ih =>
    simp only [feedChunksB, List.flatten_cons, feed_append]
    congr 1
    funext d'
    exact ih d'

/-- a decoder in the terminal state rejects every further byte and stays terminal -/
theorem stepByte_terminal (cfg : DecodeCfg) (d : Decoder) (b : UInt8) (h : d.state = .terminal) :
    stepByte cfg d b = (d, [], some .decodingFailure) := by
  simp [stepByte, h]

theorem stepByte_readLength (cfg : DecodeCfg) (d : Decoder) (b : UInt8) (h : d.state = .readLength) :
    stepByte cfg d b = stepLength cfg d b := by
  rw [stepByte, h]

end GV
