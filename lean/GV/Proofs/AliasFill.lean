/- Proofs/AliasFill.lean — the shortcut the driver uses to fill an LRU resolver with many fresh topics is the step-by-step
   model: `fillFast n = resolveAll (fillTopics n)` for up to 262144 topics (three base-64 digits). -/
import GV.Model.Alias
import GV.Proofs.Lru
namespace GV

/-- the three base-64 digits of a number below 64³ determine it -/
theorem base64_digits (i : Nat) (hi : i < 262144) : i % 64 + 64 * (i / 64 % 64) + 4096 * (i / 4096 % 64) = i := by
  have e1 : i % 262144 = i % 4096 + 4096 * (i / 4096 % 64) := Nat.mod_mul (a := 4096) (b := 64)
  have e2 : i % 4096 = i % 64 + 64 * (i / 64 % 64) := Nat.mod_mul (a := 64) (b := 64)
  rw [← e2, ← e1]
  exact Nat.mod_eq_of_lt hi

theorem digit_inj (x y : Nat) (h : UInt8.ofNat (48 + x % 64) = UInt8.ofNat (48 + y % 64)) : x % 64 = y % 64 := by
  have lt : ∀ z, 48 + z % 64 < UInt8.size := fun z =>
    Nat.lt_of_lt_of_le (Nat.add_lt_add_left (Nat.mod_lt z (by decide)) 48) (by decide)
  have a := congrArg UInt8.toNat h
  rw [UInt8.toNat_ofNat_of_lt' (lt x), UInt8.toNat_ofNat_of_lt' (lt y)] at a
  exact Nat.add_left_cancel a

theorem fillTopic_inj (i j : Nat) (hi : i < 262144) (hj : j < 262144) (h : fillTopic i = fillTopic j) : i = j := by
  unfold fillTopic at h
  simp only [List.cons.injEq, and_true, true_and] at h
  rw [← base64_digits i hi, ← base64_digits j hj, digit_inj _ _ h.1, digit_inj _ _ h.2.1, digit_inj _ _ h.2.2]

theorem resolveAll_snoc (r : OutResolver) (ts : List Bytes) (t : Bytes) :
    r.resolveAll (ts ++ [t]) =
      (((r.resolveAll ts).1.resolve none t).1, (r.resolveAll ts).2 ++ [((r.resolveAll ts).1.resolve none t).2]) := by
  unfold OutResolver.resolveAll
  rw [List.foldl_append]
  rfl

theorem lruFillCache_succ (n : Nat) : lruFillCache (n + 1) = (fillTopic n, n + 1) :: lruFillCache n := by
  unfold lruFillCache
  rw [List.range_succ, List.map_append, List.reverse_append]
  rfl

theorem lruFillCache_length (n : Nat) : (lruFillCache n).length = n := by
  unfold lruFillCache
  rw [List.length_reverse, List.length_map, List.length_range]

theorem lruFillCache_lookup (n : Nat) (hbig : n < 262144) : (lruFillCache n).lookup (fillTopic n) = none := by
  rw [List.lookup_eq_none_iff]
  intro e he
  unfold lruFillCache at he
  rw [List.mem_reverse, List.mem_map] at he
  obtain ⟨j, hj, rfl⟩ := he
  have hjn := List.mem_range.mp hj
  exact bne_iff_ne.mpr fun heq => Nat.ne_of_lt hjn (fillTopic_inj j n (Nat.lt_trans hjn hbig) hbig heq.symm)

theorem lru_fill_step (r : OutResolver) (cfg n : Nat) (hk : r.kind = .lru cfg) (hc : r.cache = lruFillCache n)
    (hn : n < r.maxAlias) (hcap : r.maxAlias ≤ lruCapacity cfg) (hbig : n < 262144) :
    r.resolve none (fillTopic n) = ({ r with cache := lruFillCache (n + 1) }, { skipTopic := false, alias := some (n + 1) }) := by
  have hlen : r.cache.length = n := hc ▸ lruFillCache_length n
  rw [lru_miss_room r cfg hk hcap none _ (hc ▸ lruFillCache_lookup n hbig) (hlen.symm ▸ hn), hlen, hc, lruFillCache_succ]

theorem lru_fill_all (cfg : Nat) : ∀ (n : Nat) (r : OutResolver), r.kind = .lru cfg → r.cache = [] → n ≤ r.maxAlias →
    r.maxAlias ≤ lruCapacity cfg → n ≤ 262144 →
    r.resolveAll (fillTopics n) = ({ r with cache := lruFillCache n }, (List.range n).map (fun i => { skipTopic := false, alias := some (i + 1) }))
  | 0, r, _, hc, _, _, _ => by
    show (r, []) = ({ r with cache := [] }, [])
    rw [← hc]
  | n + 1, r, hk, hc, hn, hcap, hbig => by
    have hts : fillTopics (n + 1) = fillTopics n ++ [fillTopic n] := by
      unfold fillTopics; rw [List.range_succ, List.map_append]; rfl
    rw [hts, resolveAll_snoc, lru_fill_all cfg n r hk hc (Nat.le_of_succ_le hn) hcap (Nat.le_of_succ_le hbig),
      lru_fill_step { r with cache := lruFillCache n } cfg n hk rfl hn hcap hbig, List.range_succ, List.map_append]
    rfl

/-- **The shortcut is the model**, whatever the resolver, for up to 64³ fresh topics (the three digits of `fillTopic`
    tell that many apart). -/
theorem fillFast_eq (r : OutResolver) (n : Nat) (hbig : n ≤ 262144) : r.fillFast n = r.resolveAll (fillTopics n) := by
  unfold OutResolver.fillFast
  cases hk : r.kind with
  | null => rfl
  | manual => rfl
  | lru cfg =>
    simp only []
    split
    · rename_i hcond
      simp only [Bool.and_eq_true, decide_eq_true_eq, List.isEmpty_iff] at hcond
      have := (lru_fill_all cfg n r hk hcond.1.1 hcond.1.2 hcond.2 hbig).symm
      rw [← this, hk]
    · rfl

end GV
