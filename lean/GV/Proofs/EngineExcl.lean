/- Proofs/EngineExcl.lean — second layer of the engine invariant: exclusivity of locations (an operation that is being
   written is not also filed in a table, a queued operation is not pending, queues are duplicate-free and disjoint),
   the current operation is tracked, the handshake's containers name tracked operations, and what waits in the user
   queue while offline passes the offline-queue policy.  On top of `Inv` (Proofs/EngineWF.lean) it is kept by every
   function of the model, one `_extra` lemma each, up to the entry points; the close handler, which needs a counting
   argument, follows in Proofs/EngineClose.lean. -/
import GV.Proofs.EngineWFStep
import GV.Proofs.Counting
namespace GV

/-- The exclusivity half of the invariant: `Big` says every tracked operation sits somewhere, `Extra` that it sits in one place.
    `x1a`-`x1c` the operation being written is not in the unflushed list nor awaiting a SUBACK, and is in the pending-publish table
    only as a PUBREL · `x2` what waits in the user / resubmit queue is in no pending table and not unflushed · `x3` nor is anything in
    the high-priority queue unflushed or awaiting a SUBACK · `x4` the current operation is in neither ordinary queue · `x5` those two
    queues are duplicate-free and disjoint from the high-priority queue · `x6` the current operation is in the high-priority queue
    only as a PUBREL · `x7`, `x9` the high-priority queue and the unflushed list are duplicate-free · `x8` only a QoS 2 publish holds a
    PUBREL · `cur` while connected or in the handshake the current operation is tracked · `h1e` during the handshake what is in flight
    exists and a CONNACK deadline is set · `op` while offline everything in the user queue passes the offline-queue policy.
    `filed` suspends `x1a`-`x1c` between the moment `service` files the operation it has written in a table or list and the moment it
    clears the current slot; `W` names operations that `h1e` does not ask to be tracked (every caller has `W = []`). -/
structure Extra (filed : Bool) (W : List Nat) (v : View) : Prop where
  x1a : filed = false → ∀ id, v.current = some id → id ∉ v.pendingWC
  x1b : filed = false → ∀ id, v.current = some id → id ∉ vals v.pendingNonPub
  x1c : filed = false → ∀ id, v.current = some id → id ∈ vals v.pendingPub → ∀ o, v.ops.lookup id = some o → o.pubrel.isSome = true
  x2 : ∀ id ∈ v.userQ ++ v.resubQ, id ∉ v.pendingWC ∧ id ∉ vals v.pendingPub ∧ id ∉ vals v.pendingNonPub
  x3 : ∀ id ∈ v.highQ, id ∉ v.pendingWC ∧ id ∉ vals v.pendingNonPub
  x4 : ∀ id, v.current = some id → id ∉ v.userQ ∧ id ∉ v.resubQ
  x5 : (v.userQ ++ v.resubQ).Nodup ∧ ∀ id ∈ v.userQ ++ v.resubQ, id ∉ v.highQ
  x6 : ∀ id, v.current = some id → id ∈ v.highQ → ∀ o, v.ops.lookup id = some o → o.pubrel.isSome = true
  x7 : v.highQ.Nodup
  x8 : ∀ id o, v.ops.lookup id = some o → o.pubrel.isSome = true → publishQos o.packet = some 2
  x9 : v.pendingWC.Nodup
  cur : (v.state = .connected ∨ v.state = .pendingConnack) → ∀ id, v.current = some id → ∃ o, v.ops.lookup id = some o
  h1e : v.state = .pendingConnack → (∀ id ∈ v.highQ ++ v.pendingWC, id ∈ W ∨ ∃ o, v.ops.lookup id = some o) ∧ v.connackSet = true
  op : (v.state = .disconnected ∨ v.state = .pendingConnack) → ∀ id ∈ v.userQ, ∀ o, v.ops.lookup id = some o →
    passesPolicy o.packet v.policy = true

def Inv2 (e : Engine) : Prop := Inv e ∧ Extra false [] e.view

theorem Inv2.begin {e : Engine} (h : Inv2 e) (t : Nat) : Inv2 (e.begin t) := ⟨h.1.begin t, h.2⟩

theorem Extra.of_eq {filed : Bool} {W : List Nat} {v v' : View} (h : Extra filed W v) (hv : v' = v) : Extra filed W v' := by rw [hv]; exact h

variable {filed : Bool} {W : List Nat} {v : View}

theorem Extra.current_not_queued (h : Extra filed W v) {id : Nat} (hc : v.current = some id) :
    id ∉ v.userQ ++ v.resubQ :=
  fun hi => (List.mem_append.mp hi).elim (h.x4 id hc).1 (h.x4 id hc).2

theorem Extra.queued_elsewhere (h : Extra filed W v) {i : Nat} (hi : i ∈ v.userQ ++ v.resubQ) :
    i ∉ v.highQ ∧ i ∉ v.pendingWC ∧ v.current ≠ some i ∧ i ∉ vals v.pendingPub ∧ i ∉ vals v.pendingNonPub :=
  ⟨h.x5.2 i hi, (h.x2 i hi).1, fun hc => h.current_not_queued hc hi, (h.x2 i hi).2.1, (h.x2 i hi).2.2⟩

/-- the operation table changes but every operation that matters keeps its existence, its PUBREL (or gains one) and its
    standing with the offline policy -/
theorem Extra.ops_change (h : Extra filed W v) (ops' : List (Nat × Op))
    (hb1 : ∀ id o', ops'.lookup id = some o' → (v.current = some id ∨ id ∈ v.highQ) →
      ∃ o, v.ops.lookup id = some o ∧ (o.pubrel.isSome = true → o'.pubrel.isSome = true))
    (hb2 : ∀ id o', ops'.lookup id = some o' → id ∈ v.userQ →
      ∃ o, v.ops.lookup id = some o ∧ passesPolicy o'.packet v.policy = passesPolicy o.packet v.policy)
    (hfc : (v.state = .connected ∨ v.state = .pendingConnack) → ∀ id o, v.current = some id → v.ops.lookup id = some o →
      ∃ o', ops'.lookup id = some o')
    (hfh : v.state = .pendingConnack → ∀ id o, id ∈ v.highQ ++ v.pendingWC → v.ops.lookup id = some o →
      id ∈ W ∨ ∃ o', ops'.lookup id = some o')
    (hq8 : ∀ id o', ops'.lookup id = some o' → o'.pubrel.isSome = true → publishQos o'.packet = some 2) :
    Extra filed W { v with ops := ops' } :=
  { h with
    x8 := hq8
    x1c := fun hf id hc hm o' ho' => by
      obtain ⟨o, ho, hp⟩ := hb1 id o' ho' (.inl hc)
      exact hp (h.x1c hf id hc hm o ho)
    x6 := fun id hc hm o' ho' => by
      obtain ⟨o, ho, hp⟩ := hb1 id o' ho' (.inl hc)
      exact hp (h.x6 id hc hm o ho)
    cur := fun hs id hc => by
      obtain ⟨o, ho⟩ := h.cur hs id hc
      exact hfc hs id o hc ho
    h1e := fun hs => ⟨fun id hi => ((h.h1e hs).1 id hi).elim .inl (fun ⟨o, ho⟩ => hfh hs id o hi ho), (h.h1e hs).2⟩
    op := fun hs id hi o' ho' => by
      obtain ⟨o, ho, hp⟩ := hb2 id o' ho' hi
      rw [hp]; exact h.op hs id hi o ho }

theorem Extra.subTables (h : Extra filed W v) (al pp pn : List (Nat × Nat))
    (hp : vals pp ⊆ vals v.pendingPub) (hn : vals pn ⊆ vals v.pendingNonPub) :
    Extra filed W { v with allocated := al, pendingPub := pp, pendingNonPub := pn } :=
  { h with
    x1b := fun hf i hc hm => h.x1b hf i hc (hn hm)
    x1c := fun hf i hc hm => h.x1c hf i hc (hp hm)
    x2 := fun i hi => ⟨(h.x2 i hi).1, fun hm => (h.x2 i hi).2.1 (hp hm), fun hm => (h.x2 i hi).2.2 (hn hm)⟩
    x3 := fun i hi => ⟨(h.x3 i hi).1, fun hm => (h.x3 i hi).2 (hn hm)⟩ }

theorem Extra.setState (h : Extra filed W v) (s' : PState)
    (hs : s' ≠ .connected ∧ s' ≠ .pendingConnack ∧ s' ≠ .disconnected) : Extra filed W { v with state := s' } :=
  { h with
    cur := fun hh => (hh.elim hs.1 hs.2.1).elim
    h1e := fun hh => (hs.2.1 hh).elim
    op := fun hh => (hh.elim hs.2.2 hs.2.1).elim }

theorem Extra.halt (h : Extra filed W v) : Extra filed W { v with state := .halted } :=
  h.setState .halted (by decide)

theorem vals_releaseFrom_sublist (m : List (Nat × Nat)) (pid : Option Nat) : (vals (releaseFrom m pid)).Sublist (vals m) := by
  cases pid with
  | none => exact List.Sublist.refl _
  | some p => exact List.Sublist.map _ List.filter_sublist

/-- an operation is completed: it is erased together with its table entries.  It must not be the current operation (nor,
    during the handshake, one of the operations in flight) for the existence clauses to survive. -/
theorem Extra.erase (h : Extra filed W v) (id : Nat) (o : Op) (s' : PState)
    (hs : s' = v.state ∨ (v.state = .pendingDisconnect ∧ s' = .halted))
    (hnc : (v.state = .connected ∨ v.state = .pendingConnack) → v.current ≠ some id)
    (hnh : v.state = .pendingConnack → id ∈ v.highQ ++ v.pendingWC → id ∈ W) :
    Extra filed W (v.erased id o s') := by
  have hlk : ∀ i x, (mapErase v.ops id).lookup i = some x → v.ops.lookup i = some x := fun i x hx => (lookup_mapErase_some hx).2
  have hne : ∀ i x, i ≠ id → v.ops.lookup i = some x → ∃ x', (mapErase v.ops id).lookup i = some x' :=
    fun i x hi hx => ⟨x, by rw [lookup_mapErase_ne _ _ _ hi]; exact hx⟩
  have h1 := (h.subTables (releaseFrom v.allocated o.packetId) _ _ (vals_releaseFrom_sublist v.pendingPub o.packetId).subset
      (vals_releaseFrom_sublist v.pendingNonPub o.packetId).subset).ops_change (mapErase v.ops id)
    (fun i x hx _ => ⟨x, hlk i x hx, fun a => a⟩) (fun i x hx _ => ⟨x, hlk i x hx, rfl⟩)
    (fun hh i x hc hx => hne i x (fun he => hnc hh (by rw [← he]; exact hc)) hx)
    (fun hh i x hi hx => by
      by_cases he : i = id
      · rw [he] at hi ⊢; exact .inl (hnh hh hi)
      · exact .inr (hne i x he hx))
    (fun i x hx => h.x8 i x (hlk i x hx))
  rcases hs with rfl | ⟨_, rfl⟩
  · exact h1
  · exact h1.halt

theorem Erases.extra {e e' : Engine} {id : Nat} (he : Erases e id e') (h : Extra filed W e.view)
    (hnc : (e.state = .connected ∨ e.state = .pendingConnack) → e.current ≠ some id)
    (hnh : e.state = .pendingConnack → id ∈ e.highQ ++ e.pendingWC → id ∈ W) : Extra filed W e'.view := by
  rcases he with ⟨_, rfl⟩ | ⟨o, s', _, hv, hs⟩
  · exact h
  · rw [hv]; exact h.erase id o s' hs hnc hnh

theorem Erases.keeps {e e' : Engine} {id : Nat} (he : Erases e id e') :
    e'.current = e.current ∧ e'.highQ = e.highQ ∧ e'.pendingWC = e.pendingWC ∧
    (e'.state = e.state ∨ (e.state = .pendingDisconnect ∧ e'.state = .halted)) := by
  rcases he with ⟨_, rfl⟩ | ⟨o, s', _, hv, hs⟩
  · exact ⟨rfl, rfl, rfl, .inl rfl⟩
  · refine ⟨congrArg View.current hv, congrArg View.highQ hv, congrArg View.pendingWC hv, ?_⟩
    rw [show e'.state = s' from congrArg View.state hv]; exact hs

theorem pc_of_step {s s' : PState} (h : s' = s ∨ (s = .pendingDisconnect ∧ s' = .halted)) :
    (s' = .connected ∨ s' = .pendingConnack) → s = s' := by
  intro hh
  rcases h with a | ⟨_, a⟩
  · exact a.symm
  · rw [a] at hh; rcases hh with b | b <;> cases b

/-! ### updates of one operation -/

theorem passesPolicy_setDup (p : Packet) (v : Bool) (pol : OfflinePolicy) : passesPolicy (setDup p v) pol = passesPolicy p pol ∧
    publishQos (setDup p v) = publishQos p := by
  cases p <;> exact ⟨rfl, rfl⟩

theorem passesPolicy_withPacketId (p : Packet) (n : Nat) (pol : OfflinePolicy) : passesPolicy (withPacketId p n) pol = passesPolicy p pol ∧
    publishQos (withPacketId p n) = publishQos p := by
  cases p <;> exact ⟨rfl, rfl⟩

theorem Extra.insertOp (h : Extra filed W v) (id : Nat) (o' : Op)
    (hp : (v.current = some id ∨ id ∈ v.highQ) → ∃ o, v.ops.lookup id = some o ∧ (o.pubrel.isSome = true → o'.pubrel.isSome = true))
    (hpol : id ∈ v.userQ → ∃ o, v.ops.lookup id = some o ∧ passesPolicy o'.packet v.policy = passesPolicy o.packet v.policy)
    (h8 : o'.pubrel.isSome = true → publishQos o'.packet = some 2) :
    Extra filed W { v with ops := mapInsert v.ops id o' } := by
  have hfwd : ∀ i x, v.ops.lookup i = some x → ∃ x', (mapInsert v.ops id o').lookup i = some x' := by
    intro i x hx
    rw [lookup_mapInsert]
    exact ite_elim (∃ x', · = some x') (fun _ => ⟨o', rfl⟩) (fun _ => ⟨x, hx⟩)
  refine h.ops_change _ ?_ ?_ (fun _ i x _ hx => hfwd i x hx) (fun _ i x _ hx => .inr (hfwd i x hx)) ?_
  · intro i x hx hrel
    rcases lookup_mapInsert_some hx with ⟨rfl, rfl⟩ | ⟨_, hx'⟩
    · exact hp hrel
    · exact ⟨x, hx', fun a => a⟩
  · intro i x hx hrel
    rcases lookup_mapInsert_some hx with ⟨rfl, rfl⟩ | ⟨_, hx'⟩
    · exact hpol hrel
    · exact ⟨x, hx', rfl⟩
  · intro i x hx hpx
    rcases lookup_mapInsert_some hx with ⟨rfl, rfl⟩ | ⟨_, hx'⟩
    · exact h8 hpx
    · exact h.x8 i x hx' hpx

theorem Extra.replaceOp (h : Extra filed W v) (id : Nat) (o o' : Op) (ho : v.ops.lookup id = some o)
    (hp : (v.current = some id ∨ id ∈ v.highQ) → o.pubrel.isSome = true → o'.pubrel.isSome = true)
    (hpol : id ∈ v.userQ → passesPolicy o'.packet v.policy = passesPolicy o.packet v.policy)
    (h8 : o'.pubrel.isSome = true → publishQos o'.packet = some 2) :
    Extra filed W { v with ops := mapInsert v.ops id o' } :=
  h.insertOp id o' (fun hr => ⟨o, ho, hp hr⟩) (fun hu => ⟨o, ho, hpol hu⟩) h8

/-- the new packet differs from the old in a flag or a packet identifier, which neither the policy nor the QoS reads -/
theorem Extra.variantOp (h : Extra filed W v) (id : Nat) (o o' : Op) (ho : v.ops.lookup id = some o) (hr : o'.pubrel = o.pubrel)
    (hp : ∀ pol, passesPolicy o'.packet pol = passesPolicy o.packet pol ∧ publishQos o'.packet = publishQos o.packet) :
    Extra filed W { v with ops := mapInsert v.ops id o' } :=
  h.replaceOp id o o' ho (fun _ a => hr ▸ a) (fun _ => (hp _).1)
    (fun hx => by rw [(hp .preserveAll).2]; exact h.x8 id o ho (hr ▸ hx))

theorem setDupFlag_extra (e : Engine) (id : Nat) (b : Bool) (hok : e.core.Ok) (h : Extra filed W e.view) :
    Extra filed W (e.setDupFlag id b).view := by
  rcases setDupFlag_cases e id b with ⟨_, he⟩ | ⟨o, ho, he⟩ <;> rw [he]
  · exact h
  · obtain rfl := hok.id_eq ho
    rw [setOp_view]
    exact h.variantOp o.id o { o with packet := setDup o.packet b } ho rfl (passesPolicy_setDup o.packet b)

theorem clearQos2_extra (e : Engine) (id : Nat) (hok : e.core.Ok) (h : Extra filed W e.view)
    (hrel : e.current ≠ some id ∧ id ∉ e.highQ) : Extra filed W (e.clearQos2 id).view := by
  rcases clearQos2_cases e id with ⟨_, he⟩ | ⟨o, ho, he⟩ <;> rw [he]
  · exact h
  · obtain rfl := hok.id_eq ho
    rw [setOp_view]
    exact h.replaceOp o.id o { o with pubrel := none } ho
      (fun hr _ => by rcases hr with a | a; exact absurd a hrel.1; exact absurd a hrel.2) (fun _ => rfl) (fun hp => by cases hp)

/-- No clause reads `allocated`, `nextPacketId`, `nextOpId`, `noTimeouts` or `rm`: when only these change, every clause of
    `h` is by definition the clause asked for, though `h` itself has another type; hence `{ h with x1a := h.x1a }`, here and
    below. -/
theorem Extra.setAllocated (h : Extra filed W v) (a : List (Nat × Nat)) (np : Nat) :
    Extra filed W { v with allocated := a, nextPacketId := np } := { h with x1a := h.x1a }

theorem unbind_extra (e : Engine) (id : Nat) (hok : e.core.Ok) (h : Extra filed W e.view) : Extra filed W (e.unbind id).view := by
  rcases unbind_cases e id with ⟨_, he⟩ | ⟨o, pid, ho, _, he⟩ <;> rw [he]
  · exact h
  · obtain rfl := hok.id_eq ho
    rw [setOp_view]
    have h1 : Extra filed W ({ e with allocated := mapErase e.allocated pid } : Engine).view := h.setAllocated _ _
    exact h1.variantOp o.id o { o with packetId := none, packet := withPacketId o.packet 0 } ho rfl
      (passesPolicy_withPacketId o.packet 0)

theorem acquireIdFor_extra (e : Engine) (id : Nat) (hok : e.core.Ok) (h : Extra filed W e.view) : Extra filed W (e.acquireIdFor id).1.view := by
  rcases acquireIdFor_cases e id with ⟨_, hE⟩ | ⟨_, _, _, hE⟩ | ⟨o, next, ho, _, _, ⟨_, hE⟩ | ⟨pid, _, hE⟩⟩ <;> rw [hE]
  · exact h
  · exact h
  · exact h.setAllocated _ _
  · have hid := hok.id_eq (show e.core.ops.lookup id = some o from ho)
    subst hid
    rw [setOp_view]
    have h1 : Extra filed W ({ e with nextPacketId := next, allocated := mapInsert e.allocated pid o.id } : Engine).view := h.setAllocated _ _
    exact h1.variantOp o.id o { o with packetId := some pid, packet := withPacketId o.packet pid } ho rfl
      (passesPolicy_withPacketId o.packet pid)

/-! ### user events -/

theorem fresh_not_anywhere (e : Engine) (hinv : Inv e) :
    e.nextOpId ∉ e.userQ ∧ e.nextOpId ∉ e.resubQ ∧ e.nextOpId ∉ e.highQ ∧ e.nextOpId ∉ e.pendingWC ∧ e.current ≠ some e.nextOpId ∧
    e.nextOpId ∉ vals e.pendingPub ∧ e.nextOpId ∉ vals e.pendingNonPub := by
  obtain ⟨hok, hb, -, -⟩ := hinv
  have hq : e.nextOpId ∉ e.userQ ++ e.resubQ ++ e.highQ ++ e.pendingWC := fun hm => Nat.lt_irrefl _ (hb.qb.1 _ hm)
  have ht : ∀ o, e.ops.lookup e.nextOpId ≠ some o := fun o ho => Nat.lt_irrefl _ (hok.ids _ (mem_of_lookup ho)).2
  refine ⟨fun hm => hq (List.mem_append_left _ (List.mem_append_left _ (List.mem_append_left _ hm))),
    fun hm => hq (List.mem_append_left _ (List.mem_append_left _ (List.mem_append_right _ hm))),
    fun hm => hq (List.mem_append_left _ (List.mem_append_right _ hm)), fun hm => hq (List.mem_append_right _ hm),
    fun hc => Nat.lt_irrefl _ (hb.qb.2 _ hc), fun hm => ?_, fun hm => ?_⟩
  · obtain ⟨k, hk⟩ := lookup_of_mem_vals hb.tps hm
    obtain ⟨x, hx, _⟩ := hb.tp k _ hk
    exact ht x hx
  · obtain ⟨k, hk⟩ := lookup_of_mem_vals hb.tns hm
    obtain ⟨x, hx, _⟩ := hb.tn k _ hk
    exact ht x hx

/-- `create_operation`: the fresh operation is in no container yet -/
theorem createOp_extra (e : Engine) (p : Packet) (user : Option (Nat × Option Nat)) (hinv : Inv e) (h : Extra filed W e.view) :
    Extra filed W (e.createOp p user).1.view := by
  have hfr := fresh_not_anywhere e hinv
  have h1 := h.insertOp e.nextOpId { id := e.nextOpId, packet := p, user := user }
    (fun hr => (hr.elim hfr.2.2.2.2.1 hfr.2.2.1).elim) (fun hu => (hfr.1 hu).elim) (fun hp => by cases hp)
  exact { h1 with x1a := h1.x1a }

theorem createOp_inv (e : Engine) (p : Packet) (user : Option (Nat × Option Nat)) (hk : user.isSome = true → isUserKind p = true) (hinv : Inv e) :
    (e.createOp p user).1.core.Ok ∧ Big [e.nextOpId] [] (e.createOp p user).1.view := by
  obtain ⟨hpa, hcr⟩ := createOp_step (S := []) (U := []) e p user hk
  exact ⟨hpa.core hinv.1, hcr hinv.1 hinv.2.1⟩

/-- both ordinary queues are replaced: by queues without duplicates whose members were queued before, or are in no other
    container -/
theorem Extra.setQueues (h : Extra filed W v) (u' r' : List Nat)
    (hsub : ∀ i ∈ u' ++ r', i ∈ v.userQ ++ v.resubQ ∨
      (i ∉ v.highQ ∧ i ∉ v.pendingWC ∧ v.current ≠ some i ∧ i ∉ vals v.pendingPub ∧ i ∉ vals v.pendingNonPub))
    (hnd : (u' ++ r').Nodup)
    (hop : (v.state = .disconnected ∨ v.state = .pendingConnack) → ∀ id ∈ u', ∀ o, v.ops.lookup id = some o → passesPolicy o.packet v.policy = true) :
    Extra filed W { v with userQ := u', resubQ := r' } :=
  { h with
    x2 := fun i hi => (hsub i hi).elim (h.x2 i) (fun a => ⟨a.2.1, a.2.2.2⟩)
    x4 := fun i hc => by
      have key : i ∉ u' ++ r' := fun hi => (hsub i hi).elim
        (fun a => (List.mem_append.mp a).elim (h.x4 i hc).1 (h.x4 i hc).2) (fun a => a.2.2.1 hc)
      exact ⟨fun hm => key (List.mem_append_left _ hm), fun hm => key (List.mem_append_right _ hm)⟩
    x5 := ⟨hnd, fun i hi => (hsub i hi).elim (h.x5.2 i) (fun a => a.1)⟩
    op := hop }

theorem Extra.pushHigh (h : Extra filed W v) (id : Nat) (front : Bool)
    (hf : id ∉ v.userQ ∧ id ∉ v.resubQ ∧ id ∉ v.pendingWC ∧ id ∉ vals v.pendingNonPub)
    (h7 : id ∉ v.highQ)
    (h6 : v.current ≠ some id ∨ ∀ o, v.ops.lookup id = some o → o.pubrel.isSome = true)
    (hex : v.state = .pendingConnack → ∃ o, v.ops.lookup id = some o) :
    Extra filed W { v with highQ := if front then id :: v.highQ else v.highQ ++ [id] } := by
  have hmem : ∀ i, i ∈ (if front then id :: v.highQ else v.highQ ++ [id]) → i = id ∨ i ∈ v.highQ := by
    intro i; cases front <;> simp [or_comm]
  exact { h with
    x3 := fun i hi => by
      rcases hmem i hi with rfl | a
      · exact ⟨hf.2.2.1, hf.2.2.2⟩
      · exact h.x3 i a
    x5 := ⟨h.x5.1, fun i hi hm => by
      rcases hmem i hm with rfl | a
      · exact (List.mem_append.mp hi).elim hf.1 hf.2.1
      · exact h.x5.2 i hi a⟩
    x6 := fun i hc hm o ho => by
      rcases hmem i hm with rfl | a
      · exact h6.elim (absurd hc) (fun b => b o ho)
      · exact h.x6 i hc a o ho
    x7 := by
      cases front
      · exact List.nodup_append.mpr ⟨h.x7, List.pairwise_singleton _ _, fun a ha b hb => by rw [List.mem_singleton.mp hb]; exact fun hh => h7 (hh ▸ ha)⟩
      · exact List.nodup_cons.mpr ⟨h7, h.x7⟩
    h1e := fun hs => ⟨fun i hi => by
      rcases List.mem_append.mp hi with c | c
      · rcases hmem i c with rfl | d
        · exact .inr (hex hs)
        · exact (h.h1e hs).1 i (List.mem_append_left _ d)
      · exact (h.h1e hs).1 i (List.mem_append_right _ c), (h.h1e hs).2⟩ }

theorem createHigh_extra (e : Engine) (p : Packet) (user : Option (Nat × Option Nat)) (front : Bool) (hinv : Inv e) (h : Extra false [] e.view) :
    Extra false [] { (e.createOp p user).1.view with highQ := if front then e.nextOpId :: e.highQ else e.highQ ++ [e.nextOpId] } :=
  have hfr := fresh_not_anywhere e hinv
  (createOp_extra e p user hinv h).pushHigh e.nextOpId front ⟨hfr.1, hfr.2.1, hfr.2.2.2.1, hfr.2.2.2.2.2.2⟩ hfr.2.2.1
    (.inl hfr.2.2.2.2.1) (fun _ => ⟨_, (createOp_fields e p user).2.2.2.2.2⟩)

theorem submit_extra (e : Engine) (p : Packet) (user : Option (Nat × Option Nat)) (q : QueueKind) (front : Bool)
    (hq : (q = .user ∧ front = false) ∨ (q = .high ∧ (∃ d, p = .disconnect d))) (hinv : Inv e) (h : Extra false [] e.view) :
    Extra false [] (e.submit p user q front).1.view := by
  have h1 := createOp_extra e p user hinv h
  have hfr := fresh_not_anywhere e hinv
  have f6 := (createOp_fields e p user).2.2.2.2.2
  rw [submit_eq]
  refine fst_ite (fun x : Engine => Extra false [] x.view) (fun _ => ?_) (fun hpol => ?_)
  · exact (completeFailure_erases _ _ _).extra h1 (fun _ => hfr.2.2.2.2.1)
      (fun _ hm => (List.mem_append.mp hm).elim (absurd · hfr.2.2.1) (absurd · hfr.2.2.2.1))
  · rcases hq with ⟨rfl, rfl⟩ | ⟨rfl, d, rfl⟩
    · show Extra false [] { (e.createOp p user).1.view with userQ := e.userQ ++ [e.nextOpId], resubQ := e.resubQ }
      refine h1.setQueues _ _ ?_ ?_ ?_
      · intro i hi
        rw [List.append_assoc] at hi
        rcases List.mem_append.mp hi with a | a
        · exact .inl (List.mem_append_left _ a)
        · rcases List.mem_cons.mp a with rfl | b
          · exact .inr hfr.2.2
          · exact .inl (List.mem_append_right _ b)
      · rw [List.append_assoc]
        exact (List.perm_middle.nodup_iff).mpr (List.nodup_cons.mpr ⟨fun hm => (List.mem_append.mp hm).elim hfr.1 hfr.2.1, h.x5.1⟩)
      · intro hs i hi o ho
        rcases List.mem_append.mp hi with a | a
        · exact h1.op hs i a o ho
        · -- the new operation: it was accepted although the engine is not connected, so it passes the policy
          rw [List.mem_singleton.mp a, show (e.createOp p user).1.view.ops = (e.createOp p user).1.ops from rfl, f6] at ho
          cases ho
          have hne : ((e.createOp p user).1.state == .connected) = false := by
            rcases hs with a | a <;> (rw [show (e.createOp p user).1.state = (e.createOp p user).1.view.state from rfl, a]; rfl)
          show passesPolicy p (e.createOp p user).1.cfg.policy = true
          simpa [Engine.opPassesPolicy, hne] using hpol
    · exact createHigh_extra e (.disconnect d) user front hinv h

theorem handleUser_extra (e : Engine) (u : UserEvent) (hinv : Inv e) (h : Extra false [] e.view) : Extra false [] (e.handleUser u).1.view := by
  cases u with
  | publish p i t => exact submit_extra e (.publish p) (some (i, t)) .user false (.inl ⟨rfl, rfl⟩) hinv h
  | subscribe p i t => exact submit_extra e (.subscribe p) (some (i, t)) .user false (.inl ⟨rfl, rfl⟩) hinv h
  | unsubscribe p i t => exact submit_extra e (.unsubscribe p) (some (i, t)) .user false (.inl ⟨rfl, rfl⟩) hinv h
  | disconnect p => exact submit_extra e (.disconnect p) none .high true (.inr ⟨rfl, p, rfl⟩) hinv h

/-! ### inbound packets -/

/-- an acknowledgement completes the operation it belongs to, which is not the one being written -/
theorem ack_completes_extra (e : Engine) (opId : Nat) (c : Option Completion) {o : Op} (h : Extra false [] e.view)
    (hblk : stateBlocksAcks e.state = false) (ho : e.op? opId = some o) (hw : e.acks opId o) :
    Extra false [] (e.completeSuccess opId c).1.view := by
  refine (completeSuccess_erases e opId c).extra h (fun _ hc => ?_) (fun hs => absurd hs (stateBlocksAcks_false hblk).2)
  rcases hw with ⟨pid, hl⟩ | ⟨⟨pid, hl⟩, hq | hg⟩
  · exact h.x1b rfl opId hc (mem_vals_of_lookup hl)
  · -- the operation being written and already pending is a QoS 2 publish sending its PUBREL
    have := h.x8 opId o ho (h.x1c rfl opId hc (mem_vals_of_lookup hl) o ho)
    rw [this] at hq; cases hq
  · rw [hc, beq_self_eq_true, Bool.true_or] at hg; cases hg

theorem acked_publish_class (p : Packet) (h : isAckedPublish p = true) : needsPacketId p = true ∧ isSubOrUnsub p = false := by
  cases p <;> simp [isAckedPublish, needsPacketId, isSubOrUnsub] at h ⊢
  rename_i pb
  omega

theorem pendingPub_elsewhere (hb : Big [] [] v) (h : Extra false [] v) (pid id : Nat) (hl : v.pendingPub.lookup pid = some id) :
    id ∉ v.userQ ∧ id ∉ v.resubQ ∧ id ∉ v.pendingWC ∧ id ∉ vals v.pendingNonPub := by
  obtain ⟨o, ho, _, hk⟩ := hb.tp pid id hl
  have hm := mem_vals_of_lookup hl
  obtain ⟨hn, hs⟩ := acked_publish_class o.packet hk
  refine ⟨fun a => (h.x2 id (List.mem_append_left _ a)).2.1 hm, fun a => (h.x2 id (List.mem_append_right _ a)).2.1 hm, ?_, ?_⟩
  · intro a
    have := hb.wc id a o ho
    rw [hn] at this; cases this
  · intro a
    obtain ⟨k, hk2⟩ := lookup_of_mem_vals hb.tns a
    obtain ⟨o2, ho2, _, hk3⟩ := hb.tn k id hk2
    rw [ho] at ho2; cases ho2
    rw [hs] at hk3; cases hk3

/-- a successful PUBREC: the PUBREL is attached and the operation queued for it -/
theorem withPubrel_extra (e : Engine) (opId : Nat) (o : Op) (pid : Nat) (hinv : Inv e) (h : Extra false [] e.view)
    (hblk : stateBlocksAcks e.state = false) (hl : e.pendingPub.lookup pid = some opId) (ho : e.op? opId = some o)
    (hq : publishQos o.packet = some 2) (hrel : o.pubrel = none) : Extra false [] (e.withPubrel opId o pid).view := by
  have hid := hinv.1.id_eq (show e.core.ops.lookup opId = some o from ho)
  subst hid
  obtain ⟨n1, n2, n3, n4⟩ := pendingPub_elsewhere hinv.2.1 h pid o.id hl
  have hk : isAckedPublish o.packet = true := by
    cases hp : o.packet with
    | publish pb => rw [hp] at hq; simp [isAckedPublish, Option.some.inj hq]
    | _ => rw [hp] at hq; cases hq
  show Extra false [] { (e.setOp { o with pubrel := some (.pubrel { packetId := pid }) }).view with
    highQ := if false then o.id :: e.highQ else e.highQ ++ [o.id] }
  rw [setOp_view]
  refine (h.replaceOp o.id o { o with pubrel := some (.pubrel { packetId := pid }) } ho (fun _ _ => rfl) (fun _ => rfl)
    (fun _ => hq)).pushHigh o.id false ⟨n1, n2, n3, n4⟩ (fun hm => ?_) (.inr (fun o2 ho2 => ?_))
    (fun hs => absurd (show e.state = .pendingConnack from hs) (stateBlocksAcks_false hblk).2)
  · -- the operation holds no PUBREL yet (a second PUBREC is refused), so it is not queued for one
    have := hinv.2.1.h2 o.id hm o ho hk
    rw [hrel] at this; cases this
  · have := (lookup_mapInsert_self e.ops o.id _).symm.trans ho2
    cases this; rfl

/-! ### sequences of completions, write completion -/

/-- the step of `succeedAll_extra` and `failAll_extra`: the operation completed is neither being written nor in flight during
    the handshake -/
theorem Erases.batch {e x x' : Engine} {id : Nat} (he : Erases x id x')
    (hx : Extra false [] x.view ∧ x.current = e.current ∧ x.highQ = e.highQ ∧ x.pendingWC = e.pendingWC)
    (hc : e.current ≠ some id) (hq : id ∉ e.highQ ++ e.pendingWC) :
    Extra false [] x'.view ∧ x'.current = e.current ∧ x'.highQ = e.highQ ∧ x'.pendingWC = e.pendingWC := by
  obtain ⟨h, c, q, w⟩ := hx
  obtain ⟨k1, k2, k3, _⟩ := he.keeps
  exact ⟨he.extra h (fun _ => by rw [c]; exact hc) (fun _ hm => by rw [q, w] at hm; exact absurd hm hq),
    k1.trans c, k2.trans q, k3.trans w⟩

theorem succeedAll_extra (ids : List Nat) (e : Engine) (h : Extra false [] e.view)
    (hc : ∀ id ∈ ids, e.current ≠ some id) (hq : ∀ id ∈ ids, id ∉ e.highQ ++ e.pendingWC) : Extra false [] (e.succeedAll ids).1.view :=
  (succeedAll_keeps (fun x => Extra false [] x.view ∧ x.current = e.current ∧ x.highQ = e.highQ ∧ x.pendingWC = e.pendingWC) ids
    (fun x id hid hx => (completeSuccess_erases x id none).batch hx (hc id hid) (hq id hid)) e ⟨h, rfl, rfl, rfl⟩).1

theorem failAll_extra (k : String) (ids : List Nat) (e : Engine) (h : Extra false [] e.view)
    (hc : ∀ id ∈ ids, e.current ≠ some id) (hq : ∀ id ∈ ids, id ∉ e.highQ ++ e.pendingWC) : Extra false [] (e.failAll ids k).1.view :=
  (failAll_keeps (fun x => Extra false [] x.view ∧ x.current = e.current ∧ x.highQ = e.highQ ∧ x.pendingWC = e.pendingWC) k ids
    (fun x id hid hx => (completeFailure_erases x id k).batch hx (hc id hid) (hq id hid)) e ⟨h, rfl, rfl, rfl⟩).1

theorem handleWriteCompletion_extra (e : Engine) (h : Extra false [] e.view) : Extra false [] e.handleWriteCompletion.1.view := by
  refine handleWriteCompletion_elim (fun x => Extra false [] x.1.view) e h (fun _ => h.halt) fun _ => ?_
  have h0 : Extra false [] ({ e with pendingWrite := false, pendingWC := [] } : Engine).view := by
    show Extra false [] { e.view with pendingWC := [] }
    exact { h with
      x1a := fun _ id _ hm => by cases hm
      x2 := fun id hi => ⟨List.not_mem_nil, (h.x2 id hi).2⟩
      x3 := fun id hi => ⟨List.not_mem_nil, (h.x3 id hi).2⟩
      x9 := List.nodup_nil
      h1e := fun hs => by
        obtain ⟨a, b⟩ := h.h1e hs
        refine ⟨fun id hi => ?_, b⟩
        simp only [List.append_nil] at hi
        exact a id (List.mem_append_left _ hi) }
  refine succeedAll_extra e.pendingWC _ h0 (fun id hi hc => h.x1a rfl id hc hi) fun id hi hm => ?_
  simp only [List.append_nil] at hm
  exact (h.x3 id hm).1 hi

/-! ### keep-alive, ack timeouts, connection opened -/

theorem serviceKeepAlive_extra (e : Engine) (hinv : Inv e) (h : Extra false [] e.view) : Extra false [] e.serviceKeepAlive.1.view :=
  serviceKeepAlive_keeps (fun x => Extra false [] x.view) e h
    (createHigh_extra e .pingreq none true hinv h)
    (fun _ _ _ hx _ => hx)

theorem foldl_earliest_mem (l : List (Nat × Nat)) (init : Option (Nat × Nat)) (x : Nat × Nat)
    (h : l.foldl (fun best x => match best with | none => some x | some b => if x.2 < b.2 then some x else some b) init = some x) :
    x ∈ l ∨ init = some x := by
  induction l generalizing init with
  | nil => right; simpa using h
  | cons y ys ih =>
    simp only [List.foldl] at h
    rcases ih _ h with h1 | h1
    · left; exact List.mem_cons_of_mem _ h1
    · cases init with
      | none => simp at h1; left; rw [h1]; exact List.mem_cons_self ..
      | some b =>
        simp only at h1
        split at h1
        · simp at h1; left; rw [h1]; exact List.mem_cons_self ..
        · right; exact h1

theorem nextDueTimeout_not_current (e : Engine) (id d : Nat) (h : e.nextDueTimeout = some (id, d)) : e.current ≠ some id := by
  rcases foldl_earliest_mem _ none (id, d) h with hm | hm
  · have := (List.mem_filter.mp hm).2
    simpa using this
  · cases hm

theorem processAckTimeouts_extra (fuel : Nat) (e : Engine) (h : Extra false [] e.view) (hs : e.state ≠ .pendingConnack) :
    Extra false [] (Engine.processAckTimeouts fuel e).1.view :=
  (processAckTimeouts_keeps (fun x => Extra false [] x.view ∧ x.state ≠ .pendingConnack)
    (fun x id d hn _ hx => by
      have he := completeFailure_erases ({ x with timeouts := x.timeouts.erase (id, d) } : Engine) id "AckTimeout"
      refine ⟨he.extra (show Extra false [] { x.view with noTimeouts := (x.timeouts.erase (id, d)).isEmpty } from { hx.1 with x1a := hx.1.x1a })
        (fun _ => nextDueTimeout_not_current x id d hn) (fun hpc => absurd hpc hx.2),
        fun hpc => hx.2 ((pc_of_step he.keeps.2.2.2 (.inr hpc)).trans hpc)⟩) fuel e ⟨h, hs⟩).1

/-- the handshake starts: nothing is being written, the CONNECT is the only thing in flight, the deadline is armed -/
theorem Extra.startHandshake (h : Extra false [] v) (hd : v.state = .disconnected)
    (hex : ∀ id ∈ v.highQ ++ v.pendingWC, ∃ o, v.ops.lookup id = some o) :
    Extra false [] { v with state := .pendingConnack, current := none, connackSet := true } :=
  { h with
    x1a := fun _ id hc => by cases hc
    x1b := fun _ id hc => by cases hc
    x1c := fun _ id hc => by cases hc
    x4 := fun id hc => by cases hc
    x6 := fun id hc => by cases hc
    cur := fun _ id hc => by cases hc
    h1e := fun _ => ⟨fun id hi => .inr (hex id hi), rfl⟩
    op := fun _ id hi o ho => h.op (.inl hd) id hi o ho }

theorem handleOpened_extra (e : Engine) (deadline : Nat) (hinv : Inv e) (h : Extra false [] e.view) :
    Extra false [] (e.handleOpened deadline).1.view := by
  rw [handleOpened_eq]
  refine fst_ite (fun x : Engine => Extra false [] x.view) (fun _ => h.halt) (fun hst => ?_)
  have hd : e.state = .disconnected := by simpa using hst
  obtain ⟨-, hh0, -, -, hw0, -⟩ := hinv.2.2.1 hd
  generalize e.opening.createConnect = p
  refine (createHigh_extra e p none true hinv h).startHandshake hd (fun id hi => ?_)
  have hi2 : id ∈ e.nextOpId :: e.highQ ++ e.pendingWC := hi
  rw [show e.highQ = [] from hh0, show e.pendingWC = [] from hw0] at hi2
  rw [List.mem_singleton.mp hi2]
  exact ⟨_, (createOp_fields e p none).2.2.2.2.2⟩

/-! ### the service path: taking an operation from a queue -/

theorem Extra.subHigh (h : Extra filed W v) (r : List Nat) (hr : r.Sublist v.highQ) :
    Extra filed W { v with highQ := r } :=
  { h with
    x3 := fun i hi => h.x3 i (hr.subset hi)
    x5 := ⟨h.x5.1, fun i hi hm => h.x5.2 i hi (hr.subset hm)⟩
    x6 := fun i hc hm => h.x6 i hc (hr.subset hm)
    x7 := h.x7.sublist hr
    h1e := fun hs => ⟨fun i hi => (h.h1e hs).1 i
      ((List.mem_append.mp hi).elim (fun c => List.mem_append_left _ (hr.subset c)) (List.mem_append_right _)), (h.h1e hs).2⟩ }

theorem Extra.setCurrentSome (h : Extra false W v) (id : Nat)
    (h1 : id ∉ v.userQ ∧ id ∉ v.resubQ ∧ id ∉ v.pendingWC ∧ id ∉ vals v.pendingNonPub)
    (h2 : id ∈ vals v.pendingPub ∨ id ∈ v.highQ → ∀ o, v.ops.lookup id = some o → o.pubrel.isSome = true)
    (hex : ∃ o, v.ops.lookup id = some o) :
    Extra false W { v with current := some id } :=
  { h with
    x1a := fun _ i hi => by cases hi; exact h1.2.2.1
    x1b := fun _ i hi => by cases hi; exact h1.2.2.2
    x1c := fun _ i hi hm => by cases hi; exact h2 (.inl hm)
    x4 := fun i hi => by cases hi; exact ⟨h1.1, h1.2.1⟩
    x6 := fun i hi hm => by cases hi; exact h2 (.inr hm)
    cur := fun _ i hi => by cases hi; exact hex }

theorem Extra.setCurrentNone (h : Extra filed W v) : Extra false W { v with current := none } :=
  { h with x1a := nofun, x1b := nofun, x1c := nofun, x4 := nofun, x6 := nofun, cur := nofun }

/-- the head of one of the ordinary queues is taken; it can become the operation being written -/
theorem Extra.takeQueued (h : Extra false W v) (id : Nat) (u' r' : List Nat)
    (hp : (v.userQ ++ v.resubQ).Perm (id :: (u' ++ r'))) (hu : ∀ i ∈ u', i ∈ v.userQ) :
    Extra false W { v with userQ := u', resubQ := r' } ∧
    ((∃ o, v.ops.lookup id = some o) → Extra false W { v with userQ := u', resubQ := r', current := some id }) := by
  obtain ⟨hni, hnd⟩ := List.nodup_cons.mp (hp.nodup_iff.mp h.x5.1)
  have hmem : id ∈ v.userQ ++ v.resubQ := hp.mem_iff.mpr (List.mem_cons_self ..)
  have hp1 := h.setQueues u' r' (fun i hi => .inl (hp.mem_iff.mpr (List.mem_cons_of_mem _ hi))) hnd (fun hs i hi => h.op hs i (hu i hi))
  exact ⟨hp1, hp1.setCurrentSome id ⟨fun a => hni (List.mem_append_left _ a), fun a => hni (List.mem_append_right _ a),
    (h.x2 id hmem).1, (h.x2 id hmem).2.2⟩ (fun hor => (hor.elim (h.x2 id hmem).2.1 (h.x5.2 id hmem)).elim)⟩

/-- taking the next operation: what `dequeue` hands out can become the current operation -/
theorem dequeue_extra (e : Engine) (all : Bool) (hb : Big [] [] e.view) (h : Extra false [] e.view) (hc : e.current = none) :
    Extra false [] (e.dequeue all).1.view ∧ (e.dequeue all).1.current = none ∧ (e.dequeue all).1.core = e.core ∧
    (e.dequeue all).1.state = e.state ∧
    ∀ id, (e.dequeue all).2 = some id → (id ∈ e.highQ ∨ all = true) ∧ ((∃ o, e.ops.lookup id = some o) →
      Extra false [] ({ (e.dequeue all).1 with current := some id } : Engine).view) := by
  rcases dequeue_cases e all with ⟨hn, he⟩ | ⟨id, r, hq, hd⟩ | ⟨id, r, hall, _, hq, _, hd⟩ | ⟨id, r, hall, _, _, hq, _, hd⟩
  · rw [he]
    exact ⟨h, hc, rfl, rfl, fun id hid => by rw [hn] at hid; cases hid⟩
  · rw [hd]
    have h7 : (id :: r).Nodup := hq ▸ h.x7
    have hp : Extra false [] ({ e with highQ := r } : Engine).view := h.subHigh r (by rw [show e.view.highQ = id :: r from hq]; exact List.sublist_cons_self id r)
    have hmem : id ∈ e.highQ := by rw [hq]; exact List.mem_cons_self ..
    refine ⟨hp, hc, rfl, rfl, fun i hi => ?_⟩
    cases hi
    refine ⟨.inl hmem, hp.setCurrentSome id ⟨fun a => h.x5.2 id (List.mem_append_left _ a) hmem,
      fun a => h.x5.2 id (List.mem_append_right _ a) hmem, (h.x3 id hmem).1, (h.x3 id hmem).2⟩ (fun hor o ho => ?_)⟩
    rcases hor with a | a
    · -- queued for its PUBREL
      obtain ⟨k, hk⟩ := lookup_of_mem_vals hb.tps a
      obtain ⟨o2, ho2, _, hk2⟩ := hb.tp k id hk
      rw [show e.view.ops.lookup id = some o from ho] at ho2; cases ho2
      exact hb.h2 id hmem o ho hk2
    · exact absurd a (List.nodup_cons.mp h7).1
  · rw [hd]
    obtain ⟨hp, hs⟩ := h.takeQueued id e.userQ r (by rw [show e.view.resubQ = id :: r from hq]; exact List.perm_middle) (fun _ a => a)
    exact ⟨hp, hc, rfl, rfl, fun i hi => by cases hi; exact ⟨.inr hall, hs⟩⟩
  · rw [hd]
    obtain ⟨hp, hs⟩ := h.takeQueued id r e.resubQ (by rw [show e.view.userQ = id :: r from hq]; exact List.Perm.refl _)
      (fun i hi => by rw [show e.view.userQ = id :: r from hq]; exact List.mem_cons_of_mem _ hi)
    exact ⟨hp, hc, rfl, rfl, fun i hi => by cases hi; exact ⟨.inr hall, hs⟩⟩

theorem connect_publishQos (p : Packet) (h : isConnectPacket p = true) : publishQos p = none := by
  cases p <;> simp [isConnectPacket] at h <;> rfl

/-- last-chance validation failed: the operation being seated is failed and nothing is being written any more -/
theorem rejectCurrent_extra (e4 : Engine) (id : Nat) (resolution : Resolution) (x : VErr) (h : Extra false [] e4.view)
    (hc : e4.current = some id)
    (hcon : e4.state = .pendingConnack → ∀ o, e4.ops.lookup id = some o → isConnectPacket o.packet = true) : Extra false [] (e4.rejectCurrent id resolution x).eng.view := by
  obtain ⟨res, hcases⟩ := rejectCurrent_cases e4 id resolution x
  have h0 : Extra false [] ({ e4 with outRes := res, current := none } : Engine).view := h.setCurrentNone
  -- the operation that was current is neither queued for the handshake nor written-but-unflushed
  have hnh : e4.state = .pendingConnack → id ∉ e4.highQ ++ e4.pendingWC := by
    intro hs hm
    rcases List.mem_append.mp hm with a | a
    · obtain ⟨o, ho⟩ := h.cur (.inr hs) id hc
      have hq := h.x8 id o ho (h.x6 id hc a o ho)
      rw [connect_publishQos _ (hcon hs o ho)] at hq; cases hq
    · exact h.x1a rfl id hc a
  have h5 := (completeFailure_erases ({ e4 with outRes := res, current := none } : Engine) id x.name).extra h0 (fun _ hcc => by cases hcc)
    (fun hs hm => absurd hm (hnh hs))
  rcases hcases with ⟨hE, _⟩ | hE | hE <;> rw [hE] <;> exact h5

theorem prepareCurrent_extra (e3 : Engine) (id : Nat) (o : Op) (h : Extra false [] e3.view)
    (hc : e3.current = some id)
    (hcon : e3.state = .pendingConnack → ∀ o, e3.ops.lookup id = some o → isConnectPacket o.packet = true) : Extra false [] (e3.prepareCurrent id o).eng.view := by
  obtain ⟨res, resolution, _, hcases⟩ := prepareCurrent_cases e3 id o
  rcases hcases with ⟨_, hE⟩ | ⟨x, hE⟩ | ⟨x, hE⟩ | ⟨steps, _, hE⟩ <;> rw [hE]
  · exact h
  · exact rejectCurrent_extra ({ e3 with outRes := res } : Engine) id resolution x h hc hcon
  · exact h
  · exact h

theorem seatCurrent_extra (e : Engine) (all : Bool) (hok : e.core.Ok) (hb : Big [] [] e.view) (h : Extra false [] e.view)
    (hall : all = true → e.state = .connected) :
    Extra false [] (e.seatCurrent all).eng.view := by
  rcases seatCurrent_cases e all with ⟨_, hS⟩ | ⟨hc, ⟨_, hS⟩ | ⟨e1, id, hdq, hrest⟩⟩
  · rw [hS]; exact h
  · rw [hS]; exact (dequeue_extra e all hb h hc).1
  · obtain ⟨hd, hcn, hcore, hst, hseat⟩ := dequeue_extra e all hb h hc
    rw [hdq] at hd hcn hcore hst hseat
    have hops : e1.ops = e.ops := congrArg Core.ops hcore
    rcases hrest with ⟨_, hS⟩ | ⟨o0, ho0, hrest⟩
    · -- no such operation any more: the entry is skipped
      rw [hS]; exact hd.setCurrentNone
    · obtain ⟨hfrom, hset⟩ := hseat id rfl
      have h2 := hset ⟨o0, by rw [← hops]; exact ho0⟩
      have hok2 : ({ e1 with current := some id } : Engine).core.Ok := by
        show e1.core.Ok; rw [hcore]; exact hok
      have h3 := acquireIdFor_extra ({ e1 with current := some id } : Engine) id hok2 h2
      obtain ⟨f1, _, _, f4, _, _, _⟩ := acquireIdFor_frame ({ e1 with current := some id } : Engine) id
      have hcon3 : (({ e1 with current := some id } : Engine).acquireIdFor id).1.state = .pendingConnack →
          ∀ o, (({ e1 with current := some id } : Engine).acquireIdFor id).1.ops.lookup id = some o → isConnectPacket o.packet = true := by
        intro hs o' ho'
        obtain ⟨x, hx, _, _, hcc, _⟩ := acquireIdFor_lookup _ hok2 id id o' ho'
        rw [hcc]
        have hpc : e.state = .pendingConnack := by rw [← hst]; rw [f1] at hs; exact hs
        have hmem : id ∈ e.highQ := by
          rcases hfrom with a | a
          · exact a
          · have := hall a; rw [hpc] at this; cases this
        exact (hb.h1 hpc).1 id (List.mem_append_left _ hmem) x (by show e.ops.lookup id = some x; rw [← hops]; exact hx)
      rcases hrest with ⟨_, hS⟩ | ⟨_, ⟨_, hS⟩ | ⟨o, _, hS⟩⟩ <;> rw [hS]
      · exact h3
      · exact h3
      · exact prepareCurrent_extra _ id o h3 f4 hcon3

/-! ### the service path: a completely written operation is filed -/

theorem vals_mapInsert_elim {m : List (Nat × Nat)} {k v x : Nat} (h : x ∈ vals (mapInsert m k v)) : x = v ∨ x ∈ vals m := by
  obtain ⟨y, hy, rfl⟩ := List.mem_map.mp h
  rcases mem_mapInsert hy with a | a
  · left; rw [a]
  · right; exact List.mem_map.mpr ⟨y, a, rfl⟩

theorem Extra.filePendingWC (h : Extra false [] v) (id : Nat) (hc : v.current = some id) (hnh : id ∉ v.highQ)
    (hex : ∃ o, v.ops.lookup id = some o) : Extra true [] { v with pendingWC := v.pendingWC ++ [id] } := by
  have hmem : ∀ i, i ∈ v.pendingWC ++ [id] → i ∈ v.pendingWC ∨ i = id :=
    fun i hi => (List.mem_append.mp hi).imp_right List.mem_singleton.mp
  exact { h with
    x1a := nofun, x1b := nofun, x1c := nofun
    x2 := fun i hi => ⟨fun hm => (hmem i hm).elim (h.x2 i hi).1 (fun a => h.current_not_queued hc (a ▸ hi)), (h.x2 i hi).2⟩
    x3 := fun i hi => ⟨fun hm => (hmem i hm).elim (h.x3 i hi).1 (fun a => hnh (a ▸ hi)), (h.x3 i hi).2⟩
    x9 := (List.perm_append_singleton _ _).nodup_iff.mpr (List.nodup_cons.mpr ⟨h.x1a rfl id hc, h.x9⟩)
    h1e := fun hs => ⟨fun i hi => by
      rcases List.mem_append.mp hi with c | c
      · exact (h.h1e hs).1 i (List.mem_append_left _ c)
      · rcases hmem i c with d | rfl
        · exact (h.h1e hs).1 i (List.mem_append_right _ d)
        · exact .inr hex, (h.h1e hs).2⟩ }

theorem Extra.filePendingPub (h : Extra false [] v) (id pid : Nat) (hc : v.current = some id) :
    Extra true [] { v with pendingPub := mapInsert v.pendingPub pid id } :=
  { h with
    x1a := nofun, x1b := nofun, x1c := nofun
    x2 := fun i hi => ⟨(h.x2 i hi).1,
      fun hm => (vals_mapInsert_elim hm).elim (fun a => h.current_not_queued hc (a ▸ hi)) (h.x2 i hi).2.1, (h.x2 i hi).2.2⟩ }

theorem Extra.filePendingNonPub (h : Extra false [] v) (id pid : Nat) (hc : v.current = some id) (hnh : id ∉ v.highQ) :
    Extra true [] { v with pendingNonPub := mapInsert v.pendingNonPub pid id } :=
  { h with
    x1a := nofun, x1b := nofun, x1c := nofun
    x2 := fun i hi => ⟨(h.x2 i hi).1, (h.x2 i hi).2.1,
      fun hm => (vals_mapInsert_elim hm).elim (fun a => h.current_not_queued hc (a ▸ hi)) (h.x2 i hi).2.2⟩
    x3 := fun i hi => ⟨(h.x3 i hi).1, fun hm => (vals_mapInsert_elim hm).elim (fun a => hnh (a ▸ hi)) (h.x3 i hi).2⟩ }

theorem fileWritten_extra (e : Engine) (id : Nat) (o : Op) (h : Extra false [] e.view) (ho : e.ops.lookup id = some o)
    (hc : e.current = some id) : Extra true [] (e.fileWritten id o).view := by
  -- still queued on the high-priority queue: only a QoS 2 publish that sends its PUBREL can be
  have hq2 : id ∈ e.highQ → needsPacketId o.packet = true ∧ isSubOrUnsub o.packet = false := fun hm => by
    have := h.x8 id o ho (h.x6 id hc hm o ho)
    cases hp : o.packet <;> rw [hp] at this <;> first | cases this | skip
    simp only [publishQos, Option.some.injEq] at this
    simp [needsPacketId, isSubOrUnsub, this]
  rcases fileWritten_cases e id o with ⟨hk, _, hE⟩ | ⟨_, _, hE⟩ | ⟨hn, hE | hE⟩ <;> rw [hE]
  · exact h.filePendingNonPub id _ hc (fun hm => by rw [(hq2 hm).2] at hk; cases hk)
  · exact h.filePendingPub id _ hc
  · exact (h.filePendingWC id hc (fun hm => by rw [(hq2 hm).1] at hn; cases hn) ⟨o, ho⟩).setState .pendingDisconnect (by decide)
  · exact h.filePendingWC id hc (fun hm => by rw [(hq2 hm).1] at hn; cases hn) ⟨o, ho⟩

theorem onFullyWritten_extra (e e3 : Engine) (hw : e.onFullyWritten = some e3) (hok : e.core.Ok) (h : Extra false [] e.view) :
    Extra false [] e3.view := by
  obtain ⟨id, o, hc, ho, rfl⟩ := onFullyWritten_cases hw
  have hid := hok.id_eq (show e.core.ops.lookup id = some o from ho)
  subst hid
  have h1 := fileWritten_extra e o.id o h ho hc
  have hops : (e.fileWritten o.id o).ops = e.ops := by
    rcases fileWritten_kinds e o.id o with ⟨_, _, _, hE⟩ | ⟨_, _, _, hE⟩ <;> rw [hE]
  generalize e.fileWritten o.id o = e1 at h1 hops
  have ho1 : e1.view.ops.lookup o.id = some o := by show e1.ops.lookup o.id = _; rw [hops]; exact ho
  have h2 : Extra true [] (e1.setOp { o with pingBase := some e.now }).view := by
    rw [setOp_view]
    exact h1.variantOp o.id o _ ho1 rfl (fun _ => ⟨rfl, rfl⟩)
  have h3 : Extra true [] ((e1.setOp { o with pingBase := some e.now }).startAckTimeout o.id).view := by
    obtain ⟨ts, hE⟩ := startAckTimeout_shape (e1.setOp { o with pingBase := some e.now }) o.id
    rw [hE]
    exact { h2 with x1a := h2.x1a }
  have h4 : Extra true [] (((e1.setOp { o with pingBase := some e.now }).startAckTimeout o.id).armPingDeadline o).view := by
    rw [armPingDeadline_view]; exact h3
  exact h4.setCurrentNone

theorem serviceQueueAux_extra (all : Bool) (cap : Nat) (fuel : Nat) (e : Engine) (hok : e.core.Ok) (hb : Big [] [] e.view)
    (h : Extra false [] e.view) (hall : all = true → e.state ≠ .pendingConnack) :
    Extra false [] (Engine.serviceQueueAux all cap fuel e).1.view := by
  refine serviceQueueAux_ind all cap
    (fun e' => e'.core.Ok ∧ Big [] [] e'.view ∧ Extra false [] e'.view ∧ (all = true → e'.state ≠ .pendingConnack))
    (fun x => Extra false [] x.1.view) (fun e' hi => hi.2.2.1) (fun e' hi hst => ?_) fuel e ⟨hok, hb, h, hall⟩
  obtain ⟨hok', hb', h', hall'⟩ := hi
  have hconn : all = true → e'.state = .connected := fun ha => hst.resolve_right (hall' ha)
  have so := seatCurrent_out e' all hok' hb' hconn
  have sp := seatCurrent_pres e' all
  have sx := seatCurrent_extra e' all hok' hb' h' hconn
  generalize e'.seatCurrent all = seat at so sp sx ⊢
  cases seat with
  | ret e1 r => exact sx
  | cont e1 => exact ⟨(sp hok').1, so.1, sx, fun ha hpc => hall' ha (so.2.pc hpc)⟩
  | encode e1 =>
    have x2 : Extra false [] (e1.encodeCurrent cap).1.view := sx
    refine ⟨fun _ _ => sx, fun _ _ _ _ _ => ⟨fun _ => x2, fun _ _ => x2, fun _ _ e3 hf => ?_⟩⟩
    have hok2 : (e1.encodeCurrent cap).1.core.Ok := (sp hok').1
    have ow := onFullyWritten_out _ e3 hf hok2 so.1 (by rw [show (e1.encodeCurrent cap).1.state = e1.state from rfl, so.2.2]; exact hst)
    exact ⟨(onFullyWritten_pres _ e3 hf hok2).1, ow.1, onFullyWritten_extra _ e3 hf hok2 x2,
      fun ha hpc => hall' ha (so.2.1.pc ((SV.of_frame rfl rfl rfl : SV e1 (e1.encodeCurrent cap).1).pc (ow.2.pc hpc)))⟩

theorem serviceQueue_extra (e : Engine) (all : Bool) (cap prefill : Nat) (hok : e.core.Ok) (hb : Big [] [] e.view) (h : Extra false [] e.view)
    (hall : all = true → e.state ≠ .pendingConnack) : Extra false [] (e.serviceQueue all cap prefill).1.view := by
  rw [serviceQueue_eq, show ∀ u x, (serviceQueueEnd u x).1.view = x.1.view from fun _ _ => rfl]
  exact serviceQueueAux_extra all cap _ _ hok hb h hall

theorem serviceCore_extra (e : Engine) (cap prefill : Nat) (hinv : Inv e) (h : Extra false [] e.view) :
    Extra false [] (e.serviceCore cap prefill).1.view := by
  obtain ⟨hok, hb, hD, hS⟩ := hinv
  rcases serviceCore_cases e cap prefill with ⟨_, hE⟩ | ⟨_, hE⟩ | ⟨hst, hE⟩ | ⟨_, ⟨_, hE⟩ | ⟨d, _, hE⟩⟩ | ⟨hst, hE⟩ <;> rw [hE]
  · exact h
  · exact h
  · exact processAckTimeouts_extra _ e h (by rw [hst]; decide)
  · exact h
  · exact fst_ite (fun x : Engine => Extra false [] x.view) (fun _ => h)
      (fun _ => serviceQueue_extra e false cap prefill hok hb h (fun hh => by cases hh))
  · have npc : ∀ {en : Engine}, SV e en → en.state ≠ .pendingConnack := fun sv hh => by
      have := sv.pc hh; rw [hst] at this; cases this
    have hk0 := processAckTimeouts_hk (e.timeouts.length + 1) e
    have hinv0 := (hk0.inv ⟨hok, hb, hD, hS⟩ (by rw [hst]; decide)).1
    have sv0 := hk0.sv
    have x0 := processAckTimeouts_extra (e.timeouts.length + 1) e h (by rw [hst]; decide)
    generalize Engine.processAckTimeouts (e.timeouts.length + 1) e = p0 at hinv0 sv0 x0 ⊢
    refine andThen_elim (fun x => Extra false [] x.1.view) (fun _ => x0) (fun _ => ?_)
    have hka := serviceKeepAlive_hk p0.1 (npc sv0)
    have hoka := (hka.stp.pres hinv0.1).1
    have ha := hka.stp.keeps hinv0.1 hinv0.2.1
    have sva := sv0.trans hka.sv
    have xa := serviceKeepAlive_extra p0.1 hinv0 x0
    generalize p0.1.serviceKeepAlive = ka at hoka ha sva xa ⊢
    refine andThen_elim (fun x => Extra false [] x.1.view) (fun _ => xa) (fun _ => ?_)
    have rb := serviceQueue_out ka.1 true cap prefill hoka ha (fun _ => npc sva)
    have xb := serviceQueue_extra ka.1 true cap prefill hoka ha xa (fun _ => npc sva)
    generalize ka.1.serviceQueue true cap prefill = qb at rb xb ⊢
    exact andThen_elim (fun x => Extra false [] x.1.view) (fun _ => xb)
      (fun _ => processAckTimeouts_extra _ qb.1 xb (npc (sva.trans rb.2)))

/-- **`service` keeps the second layer** -/
theorem service_extra (e : Engine) (cap prefill : Nat) (hinv : Inv e) (h : Extra false [] e.view) :
    Extra false [] (e.service cap prefill).1.view := by
  have hc := serviceCore_extra e cap prefill hinv h
  rcases service_cases e cap prefill with ⟨_, hE⟩ | ⟨k, _, hE⟩ <;> rw [hE]
  · exact hc
  · exact hc.halt

/-! ### reset -/

/-- nothing is in flight: only the clauses about the two ordinary queues and the operation table say anything -/
theorem Extra.idle (hc : v.current = none) (hh : v.highQ = []) (hw : v.pendingWC = [])
    (hp : v.pendingPub = []) (hn : v.pendingNonPub = []) (hs : v.state ≠ .pendingConnack) (hnd : (v.userQ ++ v.resubQ).Nodup)
    (h8 : ∀ id o, v.ops.lookup id = some o → o.pubrel.isSome = true → publishQos o.packet = some 2)
    (hop : v.state = .disconnected → ∀ id ∈ v.userQ, ∀ o, v.ops.lookup id = some o → passesPolicy o.packet v.policy = true) :
    Extra filed W v where
  x1a := fun _ id hi => by rw [hc] at hi; cases hi
  x1b := fun _ id hi => by rw [hc] at hi; cases hi
  x1c := fun _ id hi => by rw [hc] at hi; cases hi
  x2 := fun id _ => by rw [hw, hp, hn]; exact ⟨List.not_mem_nil, List.not_mem_nil, List.not_mem_nil⟩
  x3 := fun id hi => by rw [hh] at hi; cases hi
  x4 := fun id hi => by rw [hc] at hi; cases hi
  x5 := ⟨hnd, fun id _ => by rw [hh]; exact List.not_mem_nil⟩
  x6 := fun id hi => by rw [hc] at hi; cases hi
  x7 := by rw [hh]; exact List.nodup_nil
  x8 := h8
  x9 := by rw [hw]; exact List.nodup_nil
  cur := fun _ id hi => by rw [hc] at hi; cases hi
  h1e := fun hh => absurd hh hs
  op := fun hh => hh.elim hop (absurd · hs)

theorem reset_extra (e : Engine) : Extra false [] e.reset.view := by
  obtain ⟨hs, ho, hu, hr, hh, hc, -, hp, hn, hw, -⟩ := reset_fields e
  generalize e.reset = r at hs ho hu hr hh hc hp hn hw ⊢
  refine Extra.idle hc hh hw hp hn ?_ ?_ (fun id o hl => ?_) (fun _ id hi => ?_)
  · rcases hs with a | a <;> (rw [show r.view.state = r.state from rfl, a]; decide)
  · rw [show r.view.userQ = r.userQ from rfl, hu, show r.view.resubQ = r.resubQ from rfl, hr]; exact List.nodup_nil
  · rw [show r.view.ops = r.ops from rfl, ho] at hl; cases hl
  · rw [show r.view.userQ = r.userQ from rfl, hu] at hi; cases hi

/-! ### CONNACK -/

theorem sessionRequeueStage_extra (e1 : Engine) (hok : e1.core.Ok) (h : Extra false [] e1.view) :
    e1.sessionRequeueStage.core.Ok ∧ Extra false [] e1.sessionRequeueStage.view := by
  -- what is restarted waits in the user queue, so is neither being written nor in the high-priority queue
  obtain ⟨hok2, h2⟩ := (foldl_inv (fun x : Engine => (x.core.Ok ∧ Extra false [] x.view) ∧ SameBut x e1) restartStep e1.userQ
    (fun x a ha hx => by
      have hok1 := (unbind_pres x a hx.1.1).1
      have u := unbind_same x a
      exact ⟨⟨(clearQos2_pres _ a hok1).1, clearQos2_extra _ a hok1 (unbind_extra x a hx.1.1 hx.1.2) (by
        rw [u.current, u.highQ, hx.2.current, hx.2.highQ]
        exact ⟨fun hc => (h.x4 a hc).1 ha, h.x5.2 a (List.mem_append_left _ ha)⟩)⟩, (restartStep_same x a).trans hx.2⟩)
    e1 ⟨⟨hok, h⟩, .refl e1⟩).1
  rw [sessionRequeueStage_eq]
  generalize e1.userQ.foldl restartStep e1 = e2 at hok2 h2
  refine ⟨hok2, h2.setQueues (sortIds e2.userQ) (sortIds e2.resubQ) (fun i hi => .inl ?_)
    (((sortIds_perm _).append (sortIds_perm _)).nodup_iff.mpr h2.x5.1)
    (fun hs id hi o ho => h2.op hs id ((sortIds_mem _ id).mp hi) o ho)⟩
  exact (List.mem_append.mp hi).elim (fun a => List.mem_append_left _ ((sortIds_mem _ i).mp a))
    (fun a => List.mem_append_right _ ((sortIds_mem _ i).mp a))

/-- the retained retransmissions rejoin the user queue; what the resubmit queue held is in no other container -/
theorem sessionRetain_extra (e : Engine) (hok : e.core.Ok) (h : Extra false [] e.view) (hst : e.state = .connected) :
    Extra false [] e.sessionRetain.view ∧
    ∀ i ∈ e.resubQ, e.sessionRetain.current ≠ some i ∧ i ∉ e.sessionRetain.highQ ++ e.sessionRetain.pendingWC := by
  have sub : e.sessionSplit.1.Sublist e.resubQ := (partition_sublist _ e.resubQ).1
  obtain ⟨ea, hea, same, heq⟩ := sessionRetain_cases e
  rw [heq]
  generalize e.sessionSplit.1 = retained at sub hea ⊢
  have hcon : ∀ {s : PState}, s = .connected → ¬(s = .disconnected ∨ s = .pendingConnack) := by
    intro s hs; rw [hs]; decide
  have h0 : Extra false [] ({ e with resubQ := [] } : Engine).view :=
    h.setQueues e.userQ [] (fun i hi => .inl (List.mem_append_left _ (by rw [List.append_nil] at hi; exact hi)))
      (by rw [List.append_nil]; exact h.x5.1.sublist (List.sublist_append_left _ _)) (fun hs => absurd hs (hcon hst))
  have ha := (foldl_preserves (fun en id => en.setDupFlag id false) (fun x => x.core.Ok ∧ Extra false [] x.view)
    (fun x id hx => ⟨(setDupFlag_pres x id false hx.1).1, setDupFlag_extra x id false hx.1 hx.2⟩) retained { e with resubQ := [] } ⟨hok, h0⟩).2
  rw [← hea] at ha
  have facts : ∀ i ∈ e.resubQ, i ∉ ea.view.highQ ∧ i ∉ ea.view.pendingWC ∧ ea.view.current ≠ some i ∧
      i ∉ vals ea.view.pendingPub ∧ i ∉ vals ea.view.pendingNonPub := by
    intro i hi
    rw [show ea.view.highQ = e.highQ from same.highQ, show ea.view.pendingWC = e.pendingWC from same.pendingWC,
      show ea.view.current = e.current from same.current, show ea.view.pendingPub = e.pendingPub from same.pendingPub,
      show ea.view.pendingNonPub = e.pendingNonPub from same.pendingNonPub]
    exact h.queued_elsewhere (List.mem_append_right _ hi)
  refine ⟨ha.setQueues (ea.userQ ++ retained) ea.resubQ (fun i hi => ?_) ?_ (fun hs => absurd hs (hcon (same.state.trans hst))),
    fun i hi => ⟨(facts i hi).2.2.1, fun hm => (List.mem_append.mp hm).elim (facts i hi).1 (facts i hi).2.1⟩⟩
  · rw [same.resubQ, List.append_nil] at hi
    exact (List.mem_append.mp hi).elim (fun a => .inl (List.mem_append_left _ a)) (fun a => .inr (facts i (sub.subset a)))
  · rw [same.resubQ, same.userQ, List.append_nil]
    exact h.x5.1.sublist (List.Sublist.append_left sub _)

/-- `apply_session_present_to_connection`, the session was lost: what the policy rejects fails -/
theorem sessionLostStage_extra (e : Engine) (hok : e.core.Ok) (h : Extra false [] e.view) (hst : e.state = .connected) :
    e.sessionLostStage.1.core.Ok ∧ Extra false [] e.sessionLostStage.1.view := by
  refine ⟨(sessionLostStage_pres e hok).1, ?_⟩
  obtain ⟨hb, facts⟩ := sessionRetain_extra e hok h hst
  have sub : e.sessionSplit.2.Sublist e.resubQ := (partition_sublist _ e.resubQ).2
  have hf := failAll_extra "OfflineQueuePolicyFailed" e.sessionSplit.2 e.sessionRetain hb
    (fun id hi => (facts id (sub.subset hi)).1) (fun id hi => (facts id (sub.subset hi)).2)
  rw [sessionLostStage_eq]
  generalize e.sessionRetain.failAll e.sessionSplit.2 "OfflineQueuePolicyFailed" = fr at hf ⊢
  exact { hf with x1a := hf.x1a }

theorem handleConnack_extra (e : Engine) (c : Connack) (hinv : Inv e) (h : Extra false [] e.view) :
    Extra false [] (e.handleConnack c).1.view := by
  refine handleConnack_keeps (fun x => Extra false [] x.view) e c (fun _ hx => hx) (fun hst => ?_) h
  have x1 : Extra false [] (e.connackEntered c).view := by
    show Extra false [] { e.view with state := .connected, rm := some (e.buildSettings c).receiveMaximum, connackSet := false }
    exact { h with
      cur := fun _ id hc => h.cur (.inr hst) id hc
      h1e := nofun
      op := fun hh => by rcases hh with a | a <;> cases a }
  have iv := initSlowStart_view (e.connackEntered c)
  have x2 : Extra false [] (e.connackEntered c).initSlowStart.view := by rw [iv.1]; exact x1
  have hok2 := (initSlowStart_pres (e := e) (e1 := e.connackEntered c) true rfl hinv.1).1
  have hst2 : (e.connackEntered c).initSlowStart.state = .connected := iv.2.1
  generalize (e.connackEntered c).initSlowStart = e2 at x2 hok2 hst2 ⊢
  exact (applySessionPresent_keeps (fun x => (x.core.Ok ∧ Extra false [] x.view) ∧ x.state = .connected)
    (fun x hx => ⟨sessionLostStage_extra x hx.1.1 hx.1.2 hx.2, (sessionLostStage_state x (by rw [hx.2]; decide)).trans hx.2⟩)
    (fun x hx => ⟨sessionRequeueStage_extra x hx.1.1 hx.1.2, (sessionRequeueStage_state x).trans hx.2⟩) e2 c.sessionPresent
    ⟨⟨hok2, x2⟩, hst2⟩).1.2

/-! ### incoming data -/

theorem handlePacket_extra (e : Engine) (p : Packet) (hinv : Inv e) (h : Extra false [] e.view) :
    Extra false [] (e.handlePacket p).1.view :=
  handlePacket_keeps (fun x => Extra false [] x.view) e p h (fun c _ => handleConnack_extra e c hinv h)
    (fun opId _ _ hb ho _ hw => ack_completes_extra e opId _ h hb ho hw)
    (fun opId o pid hb hl ho hq hr => withPubrel_extra e opId o pid hinv h hb hl ho hq hr)
    (fun ev q a _ _ => createHigh_extra { e with outEvents := ev, inQos2 := q } a none false (hinv.of_eq rfl rfl) h)
    (fun _ _ _ => h)

theorem handleOnePacket_extra (e : Engine) (p : Packet) (hinv : Inv e) (h : Extra false [] e.view) :
    Extra false [] (e.handleOnePacket p).1.view := by
  rcases handleOnePacket_cases e p with h1 | ⟨ir, p', h1⟩ <;> rw [h1]
  · exact h
  rcases dispatchPacket_cases { e with inRes := ir } p' with ⟨x, _, h2⟩ | h2 <;> rw [h2]
  · exact h.halt
  · have h2 := handlePacket_extra { e with inRes := ir } p' (hinv.of_eq rfl rfl) h
    exact fst_ite (fun x : Engine => Extra false [] x.view) (fun _ => h2.halt) (fun _ => h2)

/-- **incoming data keeps the second layer**, whatever the bytes -/
theorem handleData_extra (e : Engine) (bs : Bytes) (hinv : Inv e) (h : Extra false [] e.view) : Extra false [] (e.handleData bs).1.view := by
  rcases handleData_cases e bs with ⟨_, h1⟩ | ⟨_, _, h1⟩ | ⟨hnd, _, _, d, h1⟩ <;> rw [h1]
  · exact h
  · exact h.halt
  · exact dataEnd_keeps (fun x => Extra false [] x.view) (fun _ hx => hx.halt) _ _
      (handlePackets_keeps (fun x => (Inv x ∧ x.state ≠ .disconnected) ∧ Extra false [] x.view)
        (fun x p hx => ⟨handleOnePacket_inv x p hx.1.1 hx.1.2, handleOnePacket_extra x p hx.1.1 hx.2⟩) d.packets
        { e with dec := d.dec } ⟨⟨hinv.of_eq rfl rfl, hnd⟩, h⟩).2

end GV
