/- Proofs/EngineWFStep.lean — continues Proofs/EngineWF.lean: the invariant `Inv` is kept by the CONNACK handler (the two
   session stages of `apply_session_present_to_connection`), by every other inbound packet handler, and by `service` (seating the
   next operation, filing a completely written one, the loop); with the entry points EngineWF.lean covers that gives `step_inv`,
   and from it `run_inv` and `inv_after` for every history.

   Three relations between the engine before and after a function carry the argument.  `HK e e'` (inbound handlers, ack
   timeouts, keep-alive): `Stp`, both queues unchanged, the state kept or Halted.  `SV e e'` (service): the queues only lose
   heads, and the state becomes neither Disconnected nor, from anything else, Connected or PendingConnack; that is what `D1`
   and `SQ` need.  `Outcome` (service functions, which return a result): `Big` holds unless an error is returned, and holds of
   the halted engine in any case, since `service` halts on an error. -/
import GV.Proofs.EngineWF
namespace GV

/-! ### CONNACK: the session stages -/

theorem setDupFlag_lookup (en : Engine) (hok : en.core.Ok) (id : Nat) (v : Bool) (j : Nat) (x' : Op) (h : (en.setDupFlag id v).ops.lookup j = some x') :
    ∃ x, en.ops.lookup j = some x ∧ x'.packetId = x.packetId ∧ x'.pubrel = x.pubrel ∧ isAckedPublish x'.packet = isAckedPublish x.packet ∧
      needsPacketId x'.packet = needsPacketId x.packet := by
  rcases setDupFlag_cases en id v with ⟨_, he⟩ | ⟨o, ho, he⟩ <;> rw [he] at h
  · exact ⟨x', h, rfl, rfl, rfl, rfl⟩
  · rcases setOp_lookup en hok id o { o with packet := setDup o.packet v } ho rfl j x' h with ⟨rfl, rfl⟩ | ⟨_, hx⟩
    · have hc := setDup_class o.packet v
      exact ⟨o, ho, rfl, rfl, hc.2.2.1, hc.2.1⟩
    · exact ⟨x', hx, rfl, rfl, rfl, rfl⟩

theorem unbind_lookup (en : Engine) (hok : en.core.Ok) (id j : Nat) (x' : Op) (h : (en.unbind id).ops.lookup j = some x') :
    ∃ x, en.ops.lookup j = some x ∧ (x.packetId = none → x'.packetId = none) ∧ x'.pubrel = x.pubrel ∧ (j = id → x'.packetId = none) ∧
      isAckedPublish x'.packet = isAckedPublish x.packet ∧ needsPacketId x'.packet = needsPacketId x.packet := by
  rcases unbind_cases en id with ⟨hn, he⟩ | ⟨o, pid, ho, _, he⟩ <;> rw [he] at h
  · exact ⟨x', h, (fun a => a), rfl, fun hj => hn x' (hj ▸ h), rfl, rfl⟩
  · rcases setOp_lookup { en with allocated := mapErase en.allocated pid } hok id o { o with packetId := none, packet := withPacketId o.packet 0 } ho rfl j x' h with ⟨rfl, rfl⟩ | ⟨hne, hx⟩
    · have hc := withPacketId_class o.packet 0
      exact ⟨o, ho, (fun _ => rfl), rfl, (fun _ => rfl), hc.2.1, hc.1⟩
    · exact ⟨x', hx, (fun a => a), rfl, (fun hj => absurd hj hne), rfl, rfl⟩

theorem clearQos2_lookup (en : Engine) (hok : en.core.Ok) (id j : Nat) (x' : Op) (h : (en.clearQos2 id).ops.lookup j = some x') :
    ∃ x, en.ops.lookup j = some x ∧ x'.packetId = x.packetId ∧ (x.pubrel = none → x'.pubrel = none) ∧ (j = id → x'.pubrel = none) ∧
      x'.packet = x.packet := by
  rcases clearQos2_cases en id with ⟨ho, he⟩ | ⟨o, ho, he⟩ <;> rw [he] at h
  · exact ⟨x', h, rfl, (fun a => a), (fun hj => by subst hj; cases ho.symm.trans h), rfl⟩
  · rcases setOp_lookup en hok id o { o with pubrel := none } ho rfl j x' h with ⟨rfl, rfl⟩ | ⟨hne, hx⟩
    · exact ⟨o, ho, rfl, (fun _ => rfl), (fun _ => rfl), rfl⟩
    · exact ⟨x', hx, rfl, (fun a => a), (fun hj => absurd hj hne), rfl⟩

theorem restartStep_lookup (en : Engine) (hok : en.core.Ok) (id j : Nat) (x' : Op) (h : (restartStep en id).ops.lookup j = some x') :
    ∃ x, en.ops.lookup j = some x ∧ (x.packetId = none → x'.packetId = none) ∧ (x.pubrel = none → x'.pubrel = none) ∧
      (j = id → x'.packetId = none ∧ x'.pubrel = none) ∧
      isAckedPublish x'.packet = isAckedPublish x.packet ∧ needsPacketId x'.packet = needsPacketId x.packet := by
  unfold restartStep at h
  have hok1 : (en.unbind id).core.Ok := (unbind_pres en id hok).1
  obtain ⟨y, hy, c1, c2, c3, c4⟩ := clearQos2_lookup (en.unbind id) hok1 id j x' h
  obtain ⟨x, hx, u1, u2, u3, u4, u5⟩ := unbind_lookup en hok id j y hy
  refine ⟨x, hx, fun a => by rw [c1]; exact u1 a, fun a => c2 (by rw [u2]; exact a), fun hj => ⟨by rw [c1]; exact u3 hj, c3 hj⟩, ?_, ?_⟩
  · rw [c4]; exact u4
  · rw [c4]; exact u5

/-- what holds of the engine while a CONNACK is being applied (it held in PendingConnack; the state is already Connected) -/
structure Handshaken (en : Engine) : Prop where
  pub : en.pendingPub = []
  non : en.pendingNonPub = []
  high : ∀ id ∈ en.highQ, ∀ o, en.ops.lookup id = some o → isAckedPublish o.packet = false ∧ needsPacketId o.packet = false
  cur : ∀ id, en.current = some id → ∀ o, en.ops.lookup id = some o → needsPacketId o.packet = false

/-- `Handshaken` only reads the two tables, two containers and the kind of each operation -/
theorem Handshaken.transfer {en x : Engine} (hj : Handshaken en) (hp : x.pendingPub = []) (hn : x.pendingNonPub = [])
    (hh : x.highQ = en.highQ) (hc : x.current = en.current)
    (back : ∀ j o, x.ops.lookup j = some o → ∃ o0, en.ops.lookup j = some o0 ∧
      isAckedPublish o.packet = isAckedPublish o0.packet ∧ needsPacketId o.packet = needsPacketId o0.packet) : Handshaken x := by
  refine ⟨hp, hn, fun i hi o ho => ?_, fun i hi o ho => ?_⟩
  · obtain ⟨o0, h0, k1, k2⟩ := back i o ho
    rw [k1, k2]; exact hj.high i (hh ▸ hi) o0 h0
  · obtain ⟨o0, h0, _, k2⟩ := back i o ho
    rw [k2]; exact hj.cur i (hc ▸ hi) o0 h0

theorem restartStep_stp {S U : List Nat} (en : Engine) (id : Nat) (hj : Handshaken en) : Stp S U S U en (restartStep en id) := by
  have s1 : Stp S U S U en (en.unbind id) :=
    unbind_stp en id ⟨(by rw [hj.pub]; exact fun h => by cases h), (by rw [hj.non]; exact fun h => by cases h)⟩
      (fun _ hc o ho => hj.cur id hc o ho)
  refine ⟨s1.pres.trans (clearQos2_pres _ id), ?_⟩
  intro hok h
  have hok1 := (s1.pres hok).1
  refine (clearQos2_stp (S := S) (U := U) (en.unbind id) id ?_).keeps hok1 (s1.keeps hok h)
  intro hi o ho
  rw [(unbind_same en id).highQ] at hi
  obtain ⟨x, hx, _, _, _, hk, _⟩ := unbind_lookup en hok id id o ho
  rw [hk]; exact (hj.high id hi x hx).1

theorem restartStep_handshaken (en : Engine) (hok : en.core.Ok) (id : Nat) (hj : Handshaken en) : Handshaken (restartStep en id) :=
  have f := restartStep_same en id
  hj.transfer (f.pendingPub.trans hj.pub) (f.pendingNonPub.trans hj.non) f.highQ f.current fun j o ho =>
    let ⟨x, hx, _, _, _, k1, k2⟩ := restartStep_lookup en hok id j o ho
    ⟨x, hx, k1, k2⟩

/-- the loop of `sessionRequeueStage` over the user queue; `done` collects what has been restarted -/
theorem restart_fold {S U : List Nat} : ∀ (l : List Nat) (en : Engine) (done : List Nat), en.core.Ok → Big S U en.view → Handshaken en →
    (∀ id ∈ done, ∀ o, en.ops.lookup id = some o → o.packetId = none ∧ o.pubrel = none) →
    (l.foldl restartStep en).core.Ok ∧ Big S U (l.foldl restartStep en).view ∧
    (∀ id ∈ done ++ l, ∀ o, (l.foldl restartStep en).ops.lookup id = some o → o.packetId = none ∧ o.pubrel = none) := by
  intro l
  induction l with
  | nil => intro en done hok h _ hd; exact ⟨hok, h, by simpa using hd⟩
  | cons x xs ih =>
    intro en done hok h hj hd
    have st := restartStep_stp (S := S) (U := U) en x hj
    have r := ih (restartStep en x) (done ++ [x]) (st.pres hok).1 (st.keeps hok h) (restartStep_handshaken en hok x hj) (fun id hid o ho => by
      obtain ⟨y, hy, k1, k2, k3, _⟩ := restartStep_lookup en hok x id o ho
      rcases List.mem_append.mp hid with a | a
      · exact ⟨k1 (hd id a y hy).1, k2 (hd id a y hy).2⟩
      · exact k3 (List.mem_singleton.mp a))
    rw [List.append_assoc] at r
    exact r

theorem Big.dropU {S U : List Nat} {v : View} (h : Big S U v)
    (hn : ∀ id ∈ U, ∀ o, v.ops.lookup id = some o → o.packetId = none ∧ o.pubrel = none) : Big S [] v := by
  have hp3 : ∀ id o pid, v.ops.lookup id = some o → o.packetId = some pid →
      v.allocated.lookup pid = some id ∨ (id ∈ ([] : List Nat) ∧ v.allocated = [] ∧ v.pendingPub = [] ∧ v.pendingNonPub = []) := by
    intro id o pid ho hp
    rcases h.p3 id o pid ho hp with a | a
    · exact .inl a
    · have := (hn id a.1 o ho).1; rw [this] at hp; cases hp
  have hpr : ∀ id o, v.ops.lookup id = some o → o.pubrel.isSome = true → pktDup o.packet = true ∨ id ∈ vals v.pendingPub ∨ id ∈ ([] : List Nat) := by
    intro id o ho hp
    rcases h.pr id o ho hp with a | a | a
    · exact .inl a
    · exact .inr (.inl a)
    · have := (hn id a o ho).2; rw [this] at hp; cases hp
  exact { h with p3 := hp3, pr := hpr }

theorem sortIds_mem (l : List Nat) (x : Nat) : x ∈ sortIds l ↔ x ∈ l := (sortIds_perm l).mem_iff

/-- `apply_session_present_to_connection`, second half (both values of the session flag) -/
theorem sessionRequeueStage_big (e1 : Engine) (hok : e1.core.Ok) (h : Big [] e1.userQ e1.view) (hj : Handshaken e1) :
    e1.sessionRequeueStage.core.Ok ∧ Big [] [] e1.sessionRequeueStage.view ∧
    sortedNat e1.sessionRequeueStage.userQ = true ∧ sortedNat e1.sessionRequeueStage.resubQ = true := by
  have r := restart_fold (S := []) (U := e1.userQ) e1.userQ e1 [] hok h hj (fun _ hi => by cases hi)
  let e2 := e1.userQ.foldl restartStep e1
  have h2 : Big [] [] e2.view := r.2.1.dropU (fun id hid o ho => r.2.2 id (by simpa using hid) o ho)
  rw [sessionRequeueStage_eq]
  refine ⟨r.1, ?_, sortIds_sorted _, sortIds_sorted _⟩
  show Big [] [] { { e2.view with resubQ := sortIds e2.resubQ } with userQ := sortIds e2.userQ }
  have a : Big [] [] { e2.view with resubQ := sortIds e2.resubQ } :=
    h2.setResubQ (sortIds e2.resubQ) (fun i hi => .inl ((sortIds_mem _ i).mpr hi)) (fun i hi => by cases hi)
      (fun i hi => h2.lt_resubQ i ((sortIds_mem _ i).mp hi))
  exact a.setUserQ (sortIds e2.userQ) (fun i hi => .inl ((sortIds_mem _ i).mpr hi)) (fun i hi => by cases hi)
    (fun i hi => a.lt_userQ i ((sortIds_mem _ i).mp hi))

theorem failAll_untracks (e : Engine) (ids : List Nat) (k : String) (id : Nat) (h : id ∈ ids) : (e.failAll ids k).1.ops.lookup id = none := by
  rw [failAll_ops]
  refine List.lookup_eq_none_iff.mpr fun y hy => bne_iff_ne.mpr fun hyid => ?_
  have := (List.mem_filter.mp hy).2
  rw [← hyid, List.contains_iff_mem.mpr h] at this
  cases this

/-- what clearing the DUP flag of exempted operations one after another keeps of the engine `en` it started from -/
structure DupCleared (S U : List Nat) (en x : Engine) : Prop where
  ok : x.core.Ok
  big : Big S U x.view
  nextOpId : x.nextOpId = en.nextOpId
  back : ∀ j x', x.ops.lookup j = some x' → ∃ x0, en.ops.lookup j = some x0 ∧ x'.packetId = x0.packetId ∧
    isAckedPublish x'.packet = isAckedPublish x0.packet ∧ needsPacketId x'.packet = needsPacketId x0.packet

theorem clearDup_fold {S U : List Nat} (l : List Nat) (en : Engine) (hU : ∀ id ∈ l, id ∈ U) (hok : en.core.Ok) (h : Big S U en.view) :
    DupCleared S U en (l.foldl (fun en id => en.setDupFlag id false) en) :=
  foldl_inv (DupCleared S U en) (fun en id => en.setDupFlag id false) l (fun x a ha hx => by
    have st := setDupFlag_false_stp (S := S) x a (hU a ha)
    refine ⟨(st.pres hx.ok).1, st.keeps hx.ok hx.big, (setDupFlag_nextOpId x a false).trans hx.nextOpId, fun j x' hj => ?_⟩
    obtain ⟨y, hy, m1, _, m3, m4⟩ := setDupFlag_lookup x hx.ok a false j x' hj
    obtain ⟨x0, h0, k1, k2, k3⟩ := hx.back j y hy
    exact ⟨x0, h0, m1.trans k1, m3.trans k2, m4.trans k3⟩) en
    ⟨hok, h, rfl, fun j x' hj => ⟨x', hj, rfl, rfl, rfl⟩⟩

/-- `apply_session_present_to_connection`, the session was lost: the retained retransmissions lose their DUP flag and rejoin
    the user queue; the rejected ones are still tracked and wait to be failed -/
theorem sessionRetain_big (e : Engine) (hok : e.core.Ok) (h : Big [] [] e.view) (hj : Handshaken e)
    (hOff : ∀ id o, e.ops.lookup id = some o → o.packetId.isSome = true → id ∈ e.userQ ∨ id ∈ e.resubQ) :
    e.sessionRetain.core.Ok ∧ Big (e.sessionSplit.2 ++ []) e.sessionRetain.userQ e.sessionRetain.view ∧ Handshaken e.sessionRetain ∧
    ∀ id o, e.sessionRetain.ops.lookup id = some o → o.packetId.isSome = true → id ∈ e.sessionRetain.userQ ∨ id ∈ e.sessionSplit.2 := by
  have hsub : e.sessionSplit.1 ⊆ e.resubQ := (partition_sublist _ e.resubQ).1.subset
  have hcov : ∀ id o, id ∈ e.resubQ → e.op? id = some o → id ∈ e.sessionSplit.1 ∨ id ∈ e.sessionSplit.2 :=
    fun _ _ => partitionByPolicy_cover (e := { e with resubQ := [] })
  obtain ⟨ea, hea, sa, heq⟩ := sessionRetain_cases e
  rw [heq]
  generalize e.sessionSplit = pr at hsub hcov hea ⊢
  have h0 : Big e.resubQ (e.userQ ++ pr.1) ({ e with resubQ := [] } : Engine).view :=
    (h.weaken (fun _ hi => hi) (fun _ hi => by cases hi)).setResubQ [] (fun i hi => .inr hi) (fun i hi => by cases hi) (fun i hi => by cases hi)
  have ra := clearDup_fold (S := e.resubQ) pr.1 { e with resubQ := [] } (fun id hid => List.mem_append_right _ hid) hok h0
  rw [← hea] at ra
  have hu : ea.userQ = e.userQ := sa.userQ
  rw [hu]
  refine ⟨ra.ok, ?_, ?_, ?_⟩
  · have a : Big e.resubQ (e.userQ ++ pr.1) { ea.view with userQ := e.userQ ++ pr.1 } := by
      refine ra.big.setUserQ _ (fun i hi => .inl (List.mem_append_left _ (by rw [← hu]; exact hi))) (fun i hi => .inr hi) ?_
      intro i hi
      show i < ea.nextOpId
      rw [ra.nextOpId]
      rcases List.mem_append.mp hi with b | b
      · exact h.lt_userQ i b
      · exact h.lt_resubQ i (hsub b)
    refine a.shrink fun id hid => ?_
    cases ho : e.op? id with
    | none =>
      refine .inr (.inr ?_)
      cases hb : ea.ops.lookup id with
      | none => exact hb
      | some x' =>
        obtain ⟨x, hx, _⟩ := ra.back id x' hb
        rw [show e.ops.lookup id = e.op? id from rfl, ho] at hx; cases hx
    | some o =>
      rcases hcov id o hid ho with b | b
      · exact .inr (.inl (.inl (List.mem_append_right _ b)))
      · exact .inl (List.mem_append_left _ b)
  · exact hj.transfer (sa.pendingPub.trans hj.pub) (sa.pendingNonPub.trans hj.non) sa.highQ sa.current fun j o ho =>
      let ⟨x, hx, _, k⟩ := ra.back j o ho
      ⟨x, hx, k⟩
  · intro id o ho hp
    obtain ⟨x, hx, k1, _⟩ := ra.back id o ho
    rcases hOff id x hx (by rw [← k1]; exact hp) with a | a
    · exact .inl (List.mem_append_left _ a)
    · rcases hcov id x a hx with b | b
      · exact .inl (List.mem_append_right _ b)
      · exact .inr b

/-- the rejected operations are failed and all packet ids given back: every operation that still carries one waits in the
    user queue -/
theorem failRejected_big (eb : Engine) (drop : List Nat) (k : String) (x : Engine)
    (hx : x = { (eb.failAll drop k).1 with inQos2 := [], allocated := [] }) (hok : eb.core.Ok)
    (h : Big (drop ++ []) eb.userQ eb.view) (hj : Handshaken eb)
    (hOff : ∀ id o, eb.ops.lookup id = some o → o.packetId.isSome = true → id ∈ eb.userQ ∨ id ∈ drop) :
    x.core.Ok ∧ Big [] x.userQ x.view ∧ Handshaken x := by
  have sc := failAll_step_drop (S := []) (U := eb.userQ) eb drop k
  have same := failAll_same k drop eb
  have hsub := failAll_sub eb drop k
  have hun := failAll_untracks eb drop k
  have tabs : (eb.failAll drop k).1.pendingPub = [] ∧ (eb.failAll drop k).1.pendingNonPub = [] :=
    failAll_keeps (fun en => en.pendingPub = [] ∧ en.pendingNonPub = []) k drop
      (fun en id _ hh => ⟨(completeFailure_tables en id _).1 hh.1, (completeFailure_tables en id _).2 hh.2⟩) eb ⟨hj.pub, hj.non⟩
  have hc := sc.keeps hok h
  have hokc := (sc.pres hok).1
  generalize (eb.failAll drop k).1 = xc at hx same hsub hun tabs hc hokc
  subst hx
  refine ⟨hokc, ?_, hj.transfer tabs.1 tabs.2 same.highQ same.current fun j o ho => ⟨o, hsub j o ho, rfl, rfl⟩⟩
  show Big [] xc.userQ { xc.view with allocated := [] }
  rw [same.userQ]
  have hp3 : ∀ id o pid, xc.view.ops.lookup id = some o → o.packetId = some pid →
      ([] : List (Nat × Nat)).lookup pid = some id ∨ (id ∈ eb.userQ ∧ ([] : List (Nat × Nat)) = [] ∧ xc.view.pendingPub = [] ∧ xc.view.pendingNonPub = []) := by
    intro id o pid ho hp
    refine .inr ⟨?_, rfl, tabs.1, tabs.2⟩
    rcases hOff id o (hsub id o ho) (by rw [hp]; rfl) with a | a
    · exact a
    · rw [show xc.view.ops.lookup id = xc.ops.lookup id from rfl, hun id a] at ho; cases ho
  exact { hc with p1s := KeysSorted.nil, p1r := ⟨(fun x hx => by cases hx), hc.p1r.2⟩, p2 := (fun q i hq => by cases hq), p3 := hp3 }

theorem sessionLostStage_big (e : Engine) (hok : e.core.Ok) (h : Big [] [] e.view) (hj : Handshaken e)
    (hOff : ∀ id o, e.ops.lookup id = some o → o.packetId.isSome = true → id ∈ e.userQ ∨ id ∈ e.resubQ) :
    e.sessionLostStage.1.core.Ok ∧ Big [] e.sessionLostStage.1.userQ e.sessionLostStage.1.view ∧ Handshaken e.sessionLostStage.1 := by
  obtain ⟨a, b, c, d⟩ := sessionRetain_big e hok h hj hOff
  rw [sessionLostStage_eq]
  exact failRejected_big e.sessionRetain e.sessionSplit.2 _ _ rfl a b c d

theorem connect_class (p : Packet) (h : isConnectPacket p = true) : isAckedPublish p = false ∧ needsPacketId p = false := by
  cases p <;> simp [isConnectPacket] at h <;> exact ⟨rfl, rfl⟩

theorem initSlowStart_view (e : Engine) : e.initSlowStart.view = e.view ∧ e.initSlowStart.state = e.state ∧ e.initSlowStart.userQ = e.userQ ∧
    e.initSlowStart.resubQ = e.resubQ ∧ e.initSlowStart.highQ = e.highQ ∧ e.initSlowStart.current = e.current ∧
    e.initSlowStart.pendingPub = e.pendingPub ∧ e.initSlowStart.pendingNonPub = e.pendingNonPub ∧ e.initSlowStart.ops = e.ops := by
  rw [initSlowStart_shape]
  exact ⟨rfl, rfl, rfl, rfl, rfl, rfl, rfl, rfl, rfl⟩

theorem Inv.of_eq {e e' : Engine} (h : Inv e) (hc : e'.core = e.core) (hv : e'.view = e.view) : Inv e' := by
  obtain ⟨hok, hb, hd, hs⟩ := h
  exact ⟨by rw [hc]; exact hok, by rw [hv]; exact hb, by rw [hv]; exact hd, by rw [hv]; exact hs⟩

/-- **`handle_connack` keeps the invariant** -/
theorem handleConnack_inv (e : Engine) (c : Connack) (hinv : Inv e) :
    Inv (e.handleConnack c).1 ∧ ((e.handleConnack c).1.state = e.state ∨ (e.handleConnack c).1.state = .connected) := by
  refine handleConnack_keeps (fun x => Inv x ∧ (x.state = e.state ∨ x.state = .connected)) e c
    (fun x hx => ⟨hx.1.of_eq rfl rfl, hx.2⟩) (fun hst => ?_) ⟨hinv, .inl rfl⟩
  obtain ⟨hok, h, hD, hS⟩ := hinv
  obtain ⟨ha, hb, hpp, hpn, hnt⟩ := h.h1 hst
  have iv := initSlowStart_view (e.connackEntered c)
  have hok2 : (e.connackEntered c).initSlowStart.core.Ok := (initSlowStart_pres (e := e) (e1 := e.connackEntered c) true rfl hok).1
  generalize (e.connackEntered c).initSlowStart = e2 at iv hok2 ⊢
  obtain ⟨ivv, ivs, ivu, ivr, ivh, ivc, ivp, ivn, ivo⟩ := iv
  -- connected, nothing in flight but the CONNECT
  have h2 : Big [] [] e2.view := by
    rw [ivv]
    show Big [] [] { e.view with state := .connected, rm := some (e.buildSettings c).receiveMaximum, connackSet := false }
    exact { h with
      h1 := (fun hh => by cases hh)
      c1 := (fun _ i hi o ho hk => by
        have := (connect_class _ (hb i hi o ho)).2
        rw [this] at hk; cases hk)
      f := (fun _ => ⟨_, rfl, by rw [show e.view.pendingPub = [] from hpp]; exact Nat.zero_le _, fun i hi o ho hk => by
        have := (connect_class _ (hb i hi o ho)).1
        rw [this] at hk; cases hk⟩) }
  have hj2 : Handshaken e2 := by
    refine ⟨ivp.trans hpp, ivn.trans hpn, ?_, ?_⟩
    · intro i hi o ho
      rw [ivh] at hi; rw [ivo] at ho
      exact connect_class _ (ha i (List.mem_append_left _ hi) o ho)
    · intro i hi o ho
      rw [ivc] at hi; rw [ivo] at ho
      exact (connect_class _ (hb i hi o ho)).2
  -- operations that still carry a packet id wait in one of the two queues
  have hOff : ∀ id o, e2.ops.lookup id = some o → o.packetId.isSome = true → id ∈ e2.userQ ∨ id ∈ e2.resubQ := by
    intro id o ho hp
    rw [ivo] at ho
    rw [ivu, ivr]
    have hneed := h.n id o ho hp
    rcases h.loc id o ho with hl | hl
    · rcases hl with a | a | a | a | a | a | a
      · exact .inl a
      · exact .inr a
      · have := (connect_class _ (ha id (List.mem_append_left _ a) o ho)).2
        rw [this] at hneed; cases hneed
      · have := (connect_class _ (hb id a o ho)).2
        rw [this] at hneed; cases hneed
      · have := h.wc id a o ho
        rw [this] at hneed; cases hneed
      · rw [show e.view.pendingPub = [] from hpp] at a; cases a
      · rw [show e.view.pendingNonPub = [] from hpn] at a; cases a
    · cases hl
  have hk3 := (applySessionPresent_pres e2 c.sessionPresent hok2).1
  have hs3 : (e2.applySessionPresent c.sessionPresent).1.state = .connected :=
    (applySessionPresent_state e2 _ (by rw [ivs]; show PState.connected ≠ _; decide)).trans ivs
  have fin : Big [] [] (e2.applySessionPresent c.sessionPresent).1.view ∧ SQ (e2.applySessionPresent c.sessionPresent).1.view := by
    rw [applySessionPresent_fst]
    cases c.sessionPresent with
    | true =>
      have r := sessionRequeueStage_big e2 hok2 (h2.weaken (fun _ hi => hi) (fun _ hi => by cases hi)) hj2
      exact ⟨r.2.1, fun _ => r.2.2⟩
    | false =>
      have l := sessionLostStage_big e2 hok2 h2 hj2 hOff
      have r := sessionRequeueStage_big e2.sessionLostStage.1 l.1 l.2.1 l.2.2
      exact ⟨r.2.1, fun _ => r.2.2⟩
  generalize (e2.applySessionPresent c.sessionPresent).1 = e3 at hk3 hs3 fin ⊢
  exact ⟨⟨hk3, fin.1, fun hd => (by rw [show e3.view.state = .connected from hs3] at hd; cases hd), fin.2⟩, .inr hs3⟩

/-! ### inbound packets -/

def QV (v v' : View) : Prop := v'.userQ = v.userQ ∧ v'.resubQ = v.resubQ ∧ (v'.state = v.state ∨ v'.state = .halted)

theorem QV.refl (v : View) : QV v v := ⟨rfl, rfl, .inl rfl⟩

theorem QV.trans {a b c : View} (h1 : QV a b) (h2 : QV b c) : QV a c :=
  ⟨h2.1.trans h1.1, h2.2.1.trans h1.2.1, by
    rcases h2.2.2 with x | x
    · rcases h1.2.2 with y | y
      · exact .inl (x.trans y)
      · exact .inr (x.trans y)
    · exact .inr x⟩

theorem QV.of_eq {v v' : View} (h : v' = v) : QV v v' := by rw [h]; exact QV.refl v

/-- what the inbound handlers (the CONNACK's apart), the ack timeouts and the keep-alive do -/
structure HK (e e' : Engine) : Prop where
  stp : Stp [] [] [] [] e e'
  qv : QV e.view e'.view

theorem HK.refl (e : Engine) : HK e e := ⟨Stp.refl _ _ _, QV.refl _⟩
theorem HK.trans {a b c : Engine} (h1 : HK a b) (h2 : HK b c) : HK a c := ⟨h1.stp.trans h2.stp, h1.qv.trans h2.qv⟩
theorem HK.of_eq {a b : Engine} (hc : b.core = a.core) (hv : b.view = a.view) : HK a b := ⟨Stp.of_eq hc hv, QV.of_eq hv⟩
theorem HK.halt {a b : Engine} (h : HK a b) : HK a { b with state := .halted } :=
  ⟨h.stp.halt, ⟨h.qv.1, h.qv.2.1, .inr rfl⟩⟩

theorem Erases.qv {e e' : Engine} {id : Nat} (he : Erases e id e') : QV e.view e'.view := by
  rcases he with ⟨_, rfl⟩ | ⟨o, s', _, hv, hs⟩
  · exact QV.refl _
  · rw [hv]; exact ⟨rfl, rfl, hs.imp_right (·.2)⟩

theorem completeSuccess_hk (e : Engine) (id : Nat) (c : Option Completion)
    (hres : ∀ o, e.op? id = some o → o.user.isSome = true → (resultFor o.packet c).isSome = true) : HK e (e.completeSuccess id c).1 :=
  ⟨completeSuccess_step e id c hres, (completeSuccess_erases e id c).qv⟩

theorem completeFailure_hk (e : Engine) (id : Nat) (k : String) : HK e (e.completeFailure id k).1 :=
  ⟨completeFailure_step e id k, (completeFailure_erases e id k).qv⟩

/-- creating an internal acknowledgement / ping operation and queueing it in the high-priority queue -/
theorem createEnqueueHigh_hk (e1 : Engine) (p : Packet) (front : Bool) (hnp : isAckedPublish p = false) (hst : e1.state ≠ .pendingConnack) :
    HK e1 (match (e1.createOp p none).1.enqueue (e1.createOp p none).2 .high front with
      | some e3 => (e3, Res.ok)
      | none => ((e1.createOp p none).1, Res.panic "enqueue_nonexistent_operation")).1 := by
  obtain ⟨hpa, hcr⟩ := createOp_step (S := []) (U := []) e1 p none (by simp)
  obtain ⟨-, f2, -, -, f5, f6⟩ := createOp_fields e1 p none
  rw [enqueue_created]
  refine ⟨⟨(createOp_internal_pres e1 p).trans (Pres.of_core_eq rfl), fun hok h => ?_⟩, rfl, rfl, .inl rfl⟩
  exact big_enqueue_high (e1.createOp p none).1 e1.nextOpId _ front (hcr hok h) f6 (by rw [f2]; exact Nat.lt_succ_self _)
    (by rw [f5]; intro hh; exact absurd hh hst) hnp rfl

theorem withAnswer_hk (e : Engine) (a : Packet) (ha : publishQos a = none) (hb : stateBlocksAcks e.state = false) :
    HK e (e.withAnswer a) := by
  have h := createEnqueueHigh_hk e a false (by cases a <;> first | rfl | cases ha) (stateBlocksAcks_false hb).2
  show HK e (e.withAnswer a, Res.ok).1
  rw [← answered_eq]
  exact h

theorem withPubrel_hk (e : Engine) (opId : Nat) (o : Op) (pid : Nat) (ho : e.op? opId = some o)
    (hl : e.pendingPub.lookup pid = some opId) (hst : e.state ≠ .pendingConnack) : HK e (e.withPubrel opId o pid) := by
  have hmem : opId ∈ vals e.view.pendingPub := mem_vals_of_lookup hl
  refine ⟨⟨withPubrel_pres pid ho, fun hok h => ?_⟩, ⟨rfl, rfl, .inl rfl⟩⟩
  unfold Engine.withPubrel
  generalize Packet.pubrel { packetId := pid } = r
  have hid := hok.id_eq (show e.core.ops.lookup opId = some o from ho)
  subst hid
  have h1 : Big [] [] (e.setOp { o with pubrel := some r }).view := by
    rw [setOp_view]
    exact h.replace (o' := { o with pubrel := some r }) (show e.view.ops.lookup o.id = some o from ho)
      rfl rfl rfl rfl rfl rfl (fun _ => .inr (.inl hmem)) (fun _ _ => rfl) (fun _ _ => hmem)
  have hlook : (e.setOp { o with pubrel := some r }).view.ops.lookup o.id = some { o with pubrel := some r } :=
    lookup_mapInsert_self _ _ _
  show Big [] [] { (e.setOp { o with pubrel := some r }).view with highQ := e.highQ ++ [o.id] }
  refine h1.setHighQ (e.highQ ++ [o.id]) (fun i hi => .inl (List.mem_append_left _ hi)) (fun i hi => by cases hi) ?_ ?_ ?_ ?_
  · intro i hi
    rcases List.mem_append.mp hi with b | b
    · exact h.lt_highQ i b
    · rw [List.mem_singleton.mp b]; exact (hok.ids _ (mem_of_lookup (show e.core.ops.lookup o.id = some o from ho))).2
  · intro i hi x hx hk
    rcases List.mem_append.mp hi with b | b
    · exact h1.h2 i b x hx hk
    · rw [List.mem_singleton.mp b, hlook] at hx; cases hx; rfl
  · intro i hi x hx hk
    rcases List.mem_append.mp hi with b | b
    · exact h1.pr2 i b x hx hk
    · rw [List.mem_singleton.mp b]; exact hmem
  · intro hd
    exact absurd (show e.state = .pendingConnack from hd) hst

theorem handlePacket_hk (e : Engine) (p : Packet) (hp : ∀ c, p ≠ .connack c) : HK e (e.handlePacket p).1 :=
  handlePacket_keeps (HK e) e p (HK.refl e) (fun c h => absurd h (hp c))
    (fun _ _ _ _ ho hres _ => completeSuccess_hk _ _ _ (fun o' ho' _ => by rw [ho] at ho'; cases ho'; exact hres))
    (fun opId o pid hb hl ho _ _ => withPubrel_hk e opId o pid ho hl (stateBlocksAcks_false hb).2)
    (fun ev q a hb ha => (HK.of_eq (a := e) (b := { e with outEvents := ev, inQos2 := q }) rfl rfl).trans (withAnswer_hk _ a ha hb))
    (fun _ _ _ => HK.of_eq rfl rfl)

theorem handlePingresp_hk (e : Engine) : HK e e.handlePingresp.1 := handlePacket_hk e .pingresp (fun _ h => nomatch h)
theorem handleSuback_hk (e : Engine) (s : Suback) : HK e (e.handleSuback s).1 := handlePacket_hk e (.suback s) (fun _ h => nomatch h)
theorem handleUnsuback_hk (e : Engine) (s : Suback) : HK e (e.handleUnsuback s).1 := handlePacket_hk e (.unsuback s) (fun _ h => nomatch h)
theorem handlePuback_hk (e : Engine) (a : Ack) : HK e (e.handlePuback a).1 := handlePacket_hk e (.puback a) (fun _ h => nomatch h)
theorem handlePubcomp_hk (e : Engine) (a : Ack) : HK e (e.handlePubcomp a).1 := handlePacket_hk e (.pubcomp a) (fun _ h => nomatch h)
theorem handleDisconnect_hk (e : Engine) (d : Disconnect) : HK e (e.handleDisconnect d).1 := handlePacket_hk e (.disconnect d) (fun _ h => nomatch h)
theorem handlePubrel_hk (e : Engine) (a : Ack) : HK e (e.handlePubrel a).1 := handlePacket_hk e (.pubrel a) (fun _ h => nomatch h)
theorem handlePublish_hk (e : Engine) (p : Publish) : HK e (e.handlePublish p).1 := handlePacket_hk e (.publish p) (fun _ h => nomatch h)
theorem handlePubrec_hk (e : Engine) (a : Ack) : HK e (e.handlePubrec a).1 := handlePacket_hk e (.pubrec a) (fun _ h => nomatch h)

theorem HK.inv {e e' : Engine} (hk : HK e e') (hinv : Inv e) (hnd : e.state ≠ .disconnected) : Inv e' ∧ e'.state ≠ .disconnected := by
  obtain ⟨hok, h, _, hS⟩ := hinv
  have hst : e'.state = e.state ∨ e'.state = .halted := hk.qv.2.2
  have hnd' : e'.state ≠ .disconnected := by
    rcases hst with a | a
    · rw [a]; exact hnd
    · rw [a]; decide
  refine ⟨⟨(hk.stp.pres hok).1, hk.stp.keeps hok h, fun hd => absurd hd hnd', ?_⟩, hnd'⟩
  intro hc
  have hc' : e'.state = .connected := hc
  rcases hst with a | a
  · have := hS (by show e.state = .connected; rw [← a]; exact hc')
    rw [show e'.view.userQ = e.view.userQ from hk.qv.1, show e'.view.resubQ = e.view.resubQ from hk.qv.2.1]; exact this
  · rw [a] at hc'; cases hc'

theorem Inv.halt {e : Engine} (h : Inv e) : Inv { e with state := .halted } := by
  obtain ⟨hok, hb, _, _⟩ := h
  exact ⟨((Pres.refl e).halt hok).1, hb.halt, (fun hd => by cases hd), (fun hd => by cases hd)⟩

theorem handlePacket_inv (e : Engine) (p : Packet) (hinv : Inv e) (hnd : e.state ≠ .disconnected) :
    Inv (e.handlePacket p).1 ∧ (e.handlePacket p).1.state ≠ .disconnected := by
  cases p with
  | connack c =>
    obtain ⟨a, b⟩ := handleConnack_inv e c hinv
    refine ⟨a, ?_⟩
    rcases b with b | b
    · exact fun h => hnd (b.symm.trans h)
    · exact fun h => nomatch b.symm.trans h
  | _ => exact (handlePacket_hk e _ (by intro c h; cases h)).inv hinv hnd

theorem handleOnePacket_inv (e : Engine) (p : Packet) (hinv : Inv e) (hnd : e.state ≠ .disconnected) :
    Inv (e.handleOnePacket p).1 ∧ (e.handleOnePacket p).1.state ≠ .disconnected :=
  handleOnePacket_keeps (fun x => Inv x ∧ x.state ≠ .disconnected) (fun _ h => ⟨h.1.halt, nofun⟩)
    (fun _ _ h => ⟨h.1.of_eq rfl rfl, h.2⟩) (fun x p h => handlePacket_inv x p h.1 h.2) e p ⟨hinv, hnd⟩

/-- **`handle_network_event_incoming_data` keeps the invariant**, whatever the bytes -/
theorem handleData_inv (e : Engine) (bs : Bytes) (hinv : Inv e) : Inv (e.handleData bs).1 := by
  rcases handleData_cases e bs with ⟨_, h⟩ | ⟨_, _, h⟩ | ⟨hnd, _, _, d, h⟩ <;> rw [h]
  · exact hinv
  · exact hinv.halt
  · exact dataEnd_keeps Inv (fun _ h => h.halt) _ _ (handlePackets_keeps (fun x => Inv x ∧ x.state ≠ .disconnected)
      (fun x p h => handleOnePacket_inv x p h.1 h.2) d.packets { e with dec := d.dec } ⟨hinv.of_eq rfl rfl, hnd⟩).1

/-! ### service: seating the next operation -/

theorem acquireFreeId_current_comm (e : Engine) (c : Option Nat) (id : Nat) :
    ({ e with current := c } : Engine).acquireFreeId id = ({ (e.acquireFreeId id).1 with current := c }, (e.acquireFreeId id).2) := by
  unfold Engine.acquireFreeId
  generalize acquireLoop e.allocated e.nextPacketId 65536 e.nextPacketId e.nextPacketId = r
  obtain ⟨found, next⟩ := r
  cases found <;> rfl

theorem acquireIdFor_current_comm (e : Engine) (c : Option Nat) (id : Nat) :
    ({ e with current := c } : Engine).acquireIdFor id = ({ (e.acquireIdFor id).1 with current := c }, (e.acquireIdFor id).2) := by
  unfold Engine.acquireIdFor
  rw [show ({ e with current := c } : Engine).op? id = e.op? id from rfl]
  cases e.op? id with
  | none => rfl
  | some o =>
    by_cases h1 : o.packetId.isSome = true
    · simp only [h1, ↓reduceIte]
    by_cases h2 : (!needsPacketId o.packet) = true
    · simp only [h1, h2, Bool.false_eq_true, ↓reduceIte]
    simp only [h1, h2, Bool.false_eq_true, ↓reduceIte, acquireFreeId_current_comm]
    generalize e.acquireFreeId id = r
    obtain ⟨e1, found⟩ := r
    cases found <;> rfl

/-- `acquire_packet_id_for_operation`, read off the table of operations afterwards -/
theorem acquireIdFor_lookup (e : Engine) (hok : e.core.Ok) (id j : Nat) (x' : Op) (h : (e.acquireIdFor id).1.ops.lookup j = some x') :
    ∃ x, e.ops.lookup j = some x ∧ isAckedPublish x'.packet = isAckedPublish x.packet ∧ needsPacketId x'.packet = needsPacketId x.packet ∧
      isConnectPacket x'.packet = isConnectPacket x.packet ∧
      (j = id → (e.acquireIdFor id).2 = .ok → needsPacketId x.packet = true → x'.packetId.isSome = true) := by
  rcases acquireIdFor_cases e id with ⟨_, hE⟩ | ⟨o, ho, hp, hE⟩ | ⟨o, next, ho, _, _, ⟨_, hE⟩ | ⟨pid, _, hE⟩⟩ <;> rw [hE] at h ⊢
  · exact ⟨x', h, rfl, rfl, rfl, fun _ hr => by cases hr⟩
  · refine ⟨x', h, rfl, rfl, rfl, fun hj _ hn => ?_⟩
    subst hj
    rw [show e.ops.lookup j = some o from ho] at h
    cases h
    exact hp hn
  · exact ⟨x', h, rfl, rfl, rfl, fun _ hr => by cases hr⟩
  · rcases setOp_lookup { e with nextPacketId := next, allocated := mapInsert e.allocated pid id } hok id o
        { o with packetId := some pid, packet := withPacketId o.packet pid } ho rfl j x' h with ⟨rfl, rfl⟩ | ⟨hne, hx⟩
    · have hw := withPacketId_class o.packet pid
      exact ⟨o, ho, hw.2.1, hw.1, hw.2.2.2.1, fun _ _ _ => rfl⟩
    · exact ⟨x', hx, rfl, rfl, rfl, fun hj => absurd hj hne⟩

/-- the invariant with every state-conditioned clause switched off (what is left to show when the engine is about to halt) -/
def BigH (en : Engine) : Prop := Big [] [] { en.view with state := .halted }

theorem Big.seat {v : View} {id : Nat} (h : Big [id] [] v) (hcur : v.current = none) (hlt : id < v.nextOpId)
    (hh1 : v.state = .pendingConnack → ∀ o, v.ops.lookup id = some o → isConnectPacket o.packet = true)
    (hc1 : v.state = .connected → ∀ o, v.ops.lookup id = some o → needsPacketId o.packet = true → o.packetId.isSome = true)
    (hf : v.state = .connected → ∀ rm, v.rm = some rm → ∀ o, v.ops.lookup id = some o → isAckedPublish o.packet = true →
      id ∈ vals v.pendingPub ∨ v.pendingPub.length < rm) :
    Big [] [] { v with current := some id } := by
  refine h.setCurrent (some id) (fun i hi => by rw [hcur] at hi; cases hi) (fun i hi => .inl (by rw [List.mem_singleton.mp hi])) ?_ ?_ ?_ ?_
  · intro i hi; cases hi; exact hlt
  · intro hs i hi; cases hi; exact hh1 hs
  · intro hs i hi; cases hi; exact hc1 hs
  · intro hs rm hrm i hi; cases hi; exact hf hs rm hrm

/-- the popped operation becomes the current one and gets its packet id -/
theorem seat_core (e1 : Engine) (id : Nat) (hok1 : e1.core.Ok) (hpop : Big [id] [] e1.view) (hcur : e1.current = none)
    (hlt : id < e1.nextOpId)
    (hpc : e1.state = .pendingConnack → ∀ o, e1.ops.lookup id = some o → isConnectPacket o.packet = true)
    (hfl : e1.state = .connected → ∀ o rm, e1.ops.lookup id = some o → isAckedPublish o.packet = true →
      e1.settings.map (·.receiveMaximum) = some rm → id ∈ vals e1.pendingPub ∨ e1.pendingPub.length < rm) :
    ((({ e1 with current := some id } : Engine).acquireIdFor id).2 = .ok → Big [] [] (({ e1 with current := some id } : Engine).acquireIdFor id).1.view) ∧
    BigH (({ e1 with current := some id } : Engine).acquireIdFor id).1 := by
  rw [acquireIdFor_current_comm]
  simp only []
  have ha : Big [id] [] (e1.acquireIdFor id).1.view := (acquireIdFor_stp (S := [id]) e1 id).keeps hok1 hpop
  obtain ⟨fst, fpp, fse, fcu, fno, -, -⟩ := acquireIdFor_frame e1 id
  have back := acquireIdFor_lookup e1 hok1 id id
  have hcur' : (e1.acquireIdFor id).1.view.current = none := fcu.trans hcur
  have hlt' : id < (e1.acquireIdFor id).1.view.nextOpId := by show id < (e1.acquireIdFor id).1.nextOpId; rw [fno]; exact hlt
  constructor
  · intro hr
    refine ha.seat hcur' hlt' ?_ ?_ ?_
    · intro hs o ho
      obtain ⟨x, hx, _, _, k3, _⟩ := back o ho
      rw [k3]; exact hpc (fst ▸ hs) x hx
    · intro _ o ho hn
      obtain ⟨x, _, _, k2, _, k4⟩ := back o ho
      exact k4 rfl hr (k2 ▸ hn)
    · intro hs rm hrm o ho hk
      obtain ⟨x, hx, k1, _⟩ := back o ho
      have := hfl (fst ▸ hs) x rm hx (k1 ▸ hk) (fse ▸ hrm)
      rw [show (e1.acquireIdFor id).1.view.pendingPub = (e1.acquireIdFor id).1.pendingPub from rfl, fpp]
      exact this
  · exact ha.halt.seat hcur' hlt' (fun hs => nomatch hs) (fun hs => nomatch hs) (fun hs => nomatch hs)

/-- what `service` does to the queues and the state; enough to carry `D1` and `SQ` across it -/
structure SV (e e' : Engine) : Prop where
  sufU : e'.userQ <:+ e.userQ
  sufR : e'.resubQ <:+ e.resubQ
  nd : e.state ≠ .disconnected → e'.state ≠ .disconnected
  conn : e'.state = .connected → e.state = .connected
  pc : e'.state = .pendingConnack → e.state = .pendingConnack

theorem SV.refl (e : Engine) : SV e e := ⟨List.suffix_refl _, List.suffix_refl _, fun h => h, fun h => h, fun h => h⟩
theorem SV.trans {a b c : Engine} (h1 : SV a b) (h2 : SV b c) : SV a c :=
  ⟨h2.sufU.trans h1.sufU, h2.sufR.trans h1.sufR, fun h => h2.nd (h1.nd h), fun h => h1.conn (h2.conn h), fun h => h1.pc (h2.pc h)⟩

theorem SV.of_frame {e e' : Engine} (h1 : e'.userQ = e.userQ) (h2 : e'.resubQ = e.resubQ) (h3 : e'.state = e.state) : SV e e' :=
  ⟨by rw [h1]; exact List.suffix_refl _, by rw [h2]; exact List.suffix_refl _, fun h => by rw [h3]; exact h, fun h => by rw [← h3]; exact h, fun h => by rw [← h3]; exact h⟩

theorem SV.of_qv {e e' : Engine} (h : QV e.view e'.view) : SV e e' := by
  rcases h.2.2 with a | a
  · exact SV.of_frame h.1 h.2.1 a
  · have hs : e'.state = .halted := a
    exact ⟨by rw [show e'.userQ = e.userQ from h.1]; exact List.suffix_refl _, by rw [show e'.resubQ = e.resubQ from h.2.1]; exact List.suffix_refl _,
      fun _ hd => (nomatch hs.symm.trans hd), fun hc => (nomatch hs.symm.trans hc), fun hc => (nomatch hs.symm.trans hc)⟩

theorem HK.sv {e e' : Engine} (h : HK e e') : SV e e' := SV.of_qv h.qv

theorem SV.halt {e e' : Engine} (h : SV e e') : SV e { e' with state := .halted } :=
  ⟨h.sufU, h.sufR, (fun _ hh => by cases hh), (fun hc => by cases hc), (fun hc => by cases hc)⟩

theorem sortedNat_suffix {l l' : List Nat} (hs : l' <:+ l) (h : sortedNat l = true) : sortedNat l' = true := by
  obtain ⟨p, rfl⟩ := hs
  induction p with
  | nil => exact h
  | cons a t ih => exact ih (sortedNat_tail a _ h)

/-- the result of a service function: the invariant holds unless an error is returned, and holds in any case once the
    engine has been halted (which is what `service` does with an error) -/
def Outcome (x : Engine × Res) : Prop := BigH x.1 ∧ ((∀ k, x.2 ≠ .err k) → Big [] [] x.1.view)

theorem Outcome.of_big {x : Engine × Res} (h : Big [] [] x.1.view) : Outcome x := ⟨h.halt, fun _ => h⟩

def SeatOut (e : Engine) : Seat → Prop
  | .ret e' r => Outcome (e', r) ∧ SV e e'
  | .cont e' => Big [] [] e'.view ∧ SV e e'
  | .encode e' => Big [] [] e'.view ∧ SV e e' ∧ e'.state = e.state

theorem SeatOut.trans {e e1 : Engine} (sv : SV e e1) (hst : e1.state = e.state) : ∀ {s : Seat}, SeatOut e1 s → SeatOut e s
  | .ret _ _, w => ⟨w.1, sv.trans w.2⟩
  | .cont _, w => ⟨w.1, sv.trans w.2⟩
  | .encode _, w => ⟨w.1, sv.trans w.2.1, w.2.2.trans hst⟩

/-- last-chance validation failed: the operation is failed and the loop goes on -/
theorem rejectCurrent_out (e4 : Engine) (id : Nat) (resolution : Resolution) (x : VErr) (hok : e4.core.Ok) (h : Big [] [] e4.view) (hc : e4.current = some id) :
    SeatOut e4 (e4.rejectCurrent id resolution x) := by
  obtain ⟨res, hcases⟩ := rejectCurrent_cases e4 id resolution x
  have h1 : Big [id] [] ({ e4 with outRes := res, current := none } : Engine).view := h.clearCurrent id hc
  have h5 := (completeFailure_step_drop (S := []) (U := []) { e4 with outRes := res, current := none } id x.name).keeps hok h1
  have sv5 : SV e4 (({ e4 with outRes := res, current := none } : Engine).completeFailure id x.name).1 :=
    (SV.of_frame rfl rfl rfl : SV e4 { e4 with outRes := res, current := none }).trans (SV.of_qv (completeFailure_hk _ id x.name).qv)
  rcases hcases with ⟨hE, _⟩ | hE | hE <;> rw [hE]
  · exact ⟨Outcome.of_big h5, sv5⟩
  · exact ⟨Outcome.of_big h5, sv5⟩
  · exact ⟨h5, sv5⟩

theorem prepareCurrent_out (e3 : Engine) (id : Nat) (o : Op) (hok : e3.core.Ok) (h : Big [] [] e3.view) (hc : e3.current = some id) :
    SeatOut e3 (e3.prepareCurrent id o) := by
  obtain ⟨res, resolution, _, hcases⟩ := prepareCurrent_cases e3 id o
  have h4 : Big [] [] ({ e3 with outRes := res } : Engine).view := h
  have sv4 : SV e3 { e3 with outRes := res } := SV.of_frame rfl rfl rfl
  rcases hcases with ⟨_, hE⟩ | ⟨x, hE⟩ | ⟨x, hE⟩ | ⟨steps, _, hE⟩ <;> rw [hE]
  · exact ⟨Outcome.of_big h4, sv4⟩
  · exact SeatOut.trans sv4 rfl (rejectCurrent_out { e3 with outRes := res } id resolution x hok h4 hc)
  · exact ⟨Outcome.of_big h4, sv4⟩
  · exact ⟨h4, SV.of_frame rfl rfl rfl, rfl⟩

theorem passesRM_flow (e : Engine) (id : Nat) (hp : e.passesReceiveMaximum id = true) :
    ∀ o rm, e.ops.lookup id = some o → isAckedPublish o.packet = true → e.settings.map (·.receiveMaximum) = some rm →
      id ∈ vals e.pendingPub ∨ e.pendingPub.length < rm := by
  intro o rm ho hk hrm
  right
  unfold Engine.passesReceiveMaximum at hp
  cases hs : e.settings with
  | none => rw [hs] at hrm; cases hrm
  | some st =>
    rw [hs] at hp hrm
    simp only [Option.map_some, Option.some.injEq] at hrm
    simp only [] at hp
    by_cases hge : e.pendingPub.length ≥ st.receiveMaximum
    · rw [if_pos hge] at hp
      have : e.op? id = some o := ho
      rw [this] at hp
      simp only [Option.bind_some] at hp
      cases hpk : o.packet with
      | publish pb =>
        rw [hpk] at hp hk
        simp only [publishQos, beq_iff_eq] at hp
        simp only [isAckedPublish, bne_iff_ne, ne_eq] at hk
        exact absurd hp hk
      | _ => rw [hpk] at hk; simp [isAckedPublish] at hk
    · rw [← hrm]; omega

/-- the `if self.current_operation.is_none() { ... }` block -/
theorem seatCurrent_out (e : Engine) (all : Bool) (hok : e.core.Ok) (h : Big [] [] e.view)
    (hall : all = true → e.state = .connected) : SeatOut e (e.seatCurrent all) := by
  rcases seatCurrent_cases e all with ⟨_, hS⟩ | ⟨hc, ⟨hn, hS⟩ | ⟨e1, id, hd, hrest⟩⟩
  · rw [hS]; exact ⟨h, SV.refl e, rfl⟩
  · rw [hS, dequeue_none hn]; exact ⟨Outcome.of_big h, SV.refl _⟩
  · -- what the three queues an operation can be taken from have in common
    have main : e1.core.Ok → Big [id] [] e1.view → e1.current = none → SV e e1 → e1.state = e.state → id < e1.nextOpId →
        (e1.state = .pendingConnack → ∀ o, e1.ops.lookup id = some o → isConnectPacket o.packet = true) →
        (e1.state = .connected → ∀ o rm, e1.ops.lookup id = some o → isAckedPublish o.packet = true →
          e1.settings.map (·.receiveMaximum) = some rm → id ∈ vals e1.pendingPub ∨ e1.pendingPub.length < rm) →
        SeatOut e (e.seatCurrent all) := by
      intro hok1 hpop hcur sv1 hst1 hlt hpc hfl
      rcases hrest with ⟨hnone, hS⟩ | ⟨o0, ho0, hrest⟩
      · rw [hS]
        exact ⟨(hpop.drop_untracked hnone).clearCurrent_none hcur, sv1.trans (SV.of_frame rfl rfl rfl)⟩
      · have sc := seat_core e1 id hok1 hpop hcur hlt hpc hfl
        obtain ⟨fst, -, -, fcu, -, fuq, frq⟩ := acquireIdFor_frame { e1 with current := some id } id
        have hres := acquireIdFor_result { e1 with current := some id } id o0 ho0
        have hok3 := (acquireIdFor_pres { e1 with current := some id } id hok1).1
        generalize ({ e1 with current := some id } : Engine).acquireIdFor id = x3 at sc fst fcu fuq frq hres hok3 hrest
        obtain ⟨e3, r⟩ := x3
        have sv3 : SV e e3 := sv1.trans (SV.of_frame fuq frq fst)
        rcases hrest with ⟨hnok, hS⟩ | ⟨hrok, ⟨_, hS⟩ | ⟨o, _, hS⟩⟩ <;> rw [hS]
        · refine ⟨⟨sc.2, fun hne => ?_⟩, sv3⟩
          have hnok' : r.isOk = false := hnok
          rcases hres with a | a
          · rw [show r = .ok from a] at hnok'; cases hnok'
          · exact absurd a (hne _)
        · exact ⟨Outcome.of_big (sc.1 hrok), sv3⟩
        · exact SeatOut.trans sv3 (fst.trans hst1) (prepareCurrent_out e3 id o hok3 (sc.1 hrok) fcu)
    -- the head of a queue is either what was popped or still in the queue
    have pop : ∀ {l r : List Nat}, l = id :: r → (∀ i ∈ l, i ∈ r ∨ i ∈ [id]) ∧ id ∈ l ∧ ∀ i ∈ r, i ∈ l := fun hq => by
      rw [hq]
      exact ⟨fun i hi => (List.mem_cons.mp hi).elim (fun a => .inr (List.mem_singleton.mpr a)) .inl, List.mem_cons_self ..,
        fun i hi => List.mem_cons_of_mem _ hi⟩
    rcases dequeue_cases e all with ⟨hn, _⟩ | ⟨id', r, hq, hdq⟩ | ⟨id', r, hal, hq0, hq, hp, hdq⟩ | ⟨id', r, hal, hq0, hq1, hq, hp, hdq⟩
    · rw [hd] at hn; cases hn
    · rw [hd] at hdq; cases hdq
      obtain ⟨hsplit, hin, hsub⟩ := pop (show e.view.highQ = id :: r from hq)
      refine main hok ?_ hc (SV.of_frame rfl rfl rfl) rfl (h.lt_highQ id hin) ?_ ?_
      · exact h.setHighQ r hsplit (fun i hi => by cases hi) (fun i hi => h.lt_highQ i (hsub i hi))
          (fun i hi => h.h2 i (hsub i hi)) (fun i hi => h.pr2 i (hsub i hi)) (fun hs i hi => (h.h1 hs).1 i (List.mem_append_left _ (hsub i hi)))
      · intro hs o ho
        exact (h.h1 hs).1 id (List.mem_append_left _ hin) o ho
      · intro hs o rm ho hk _
        exact .inl (h.pr2 id hin o ho (h.h2 id hin o ho hk))
    · rw [hd] at hdq; cases hdq
      obtain ⟨hsplit, hin, hsub⟩ := pop (show e.view.resubQ = id :: r from hq)
      refine main hok ?_ hc ⟨List.suffix_refl _, ⟨[id], by rw [hq]; rfl⟩, fun a => a, fun a => a, fun a => a⟩ rfl
        (h.lt_resubQ id hin) (fun hs => ?_) (fun _ => passesRM_flow e id hp)
      · exact h.setResubQ r hsplit (fun i hi => by cases hi) (fun i hi => h.lt_resubQ i (hsub i hi))
      · rw [show e.state = .connected from hall hal] at hs; cases hs
    · rw [hd] at hdq; cases hdq
      obtain ⟨hsplit, hin, hsub⟩ := pop (show e.view.userQ = id :: r from hq)
      refine main hok ?_ hc ⟨⟨[id], by rw [hq]; rfl⟩, List.suffix_refl _, fun a => a, fun a => a, fun a => a⟩ rfl
        (h.lt_userQ id hin) (fun hs => ?_) (fun _ => passesRM_flow e id hp)
      · exact h.setUserQ r hsplit (fun i hi => by cases hi) (fun i hi => h.lt_userQ i (hsub i hi))
      · rw [show e.state = .connected from hall hal] at hs; cases hs

/-! ### service: a completely written operation is filed -/

theorem mapInsert_length {β} (m : List (Nat × β)) (hs : KeysSorted m) (k : Nat) (v : β) :
    (mapInsert m k v).length = if (m.lookup k).isSome then m.length else m.length + 1 := by
  cases hl : m.lookup k with
  | none =>
    have := (mapInsert_perm_of_none v hl).length_eq
    simp only [List.length_cons] at this
    simpa using this
  | some v0 =>
    have h1 := (mapInsert_perm_of_some hs v hl).length_eq
    have h2 := (perm_cons_mapErase hs hl).length_eq
    simp only [List.length_cons] at h1 h2
    simp only [Option.isSome_some, ↓reduceIte]
    omega

theorem mem_vals_mapInsert {m : List (Nat × Nat)} (hs : KeysSorted m) {k v : Nat} :
    v ∈ vals (mapInsert m k v) ∧ ∀ w, w ∈ vals m → (∀ q, m.lookup q = some w → q = k → w = v) → w ∈ vals (mapInsert m k v) := by
  refine ⟨mem_vals_of_lookup (lookup_mapInsert_self _ _ _), ?_⟩
  intro w hw huniq
  obtain ⟨q, hq⟩ := lookup_of_mem_vals hs hw
  by_cases hqk : q = k
  · have := huniq q hq hqk
    subst this
    exact mem_vals_of_lookup (lookup_mapInsert_self _ _ _)
  · exact mem_vals_of_lookup (by rw [lookup_mapInsert_ne _ _ _ _ hqk]; exact hq)

/-- filing `id` under its own packet id drops nothing from a table of packet ids: whoever sits under `pid` already is `id` -/
theorem Big.vals_mapInsert_mono {S : List Nat} {v : View} (h : Big S [] v) {id pid : Nat} {o : Op} (ho : v.ops.lookup id = some o)
    (hp : o.packetId = some pid) {m : List (Nat × Nat)} (hs : KeysSorted m)
    (hm : ∀ q w, m.lookup q = some w → ∃ x, v.ops.lookup w = some x ∧ x.packetId = some q) :
    ∀ w, w ∈ vals m → w ∈ vals (mapInsert m pid id) := by
  intro w hw
  refine (mem_vals_mapInsert hs).2 w hw fun q hq hqp => ?_
  subst hqp
  obtain ⟨x, hx, hpx⟩ := hm q w hq
  rcases h.p3 w x q hx hpx with a | a
  · rcases h.p3 id o q ho hp with b | b
    · rw [a] at b; cases b; rfl
    · cases b.1
  · cases a.1

/-- a completely written QoS 1/2 publish (or its PUBREL) joins the pending-publish table under its packet id -/
theorem Big.insertPendingPub {S : List Nat} {v : View} (h : Big S [] v) {id pid : Nat} {o : Op} (ho : v.ops.lookup id = some o)
    (hp : o.packetId = some pid) (hk : isAckedPublish o.packet = true) (hnpc : v.state ≠ .pendingConnack)
    (hcur : v.current = some id) :
    Big S [] { v with pendingPub := mapInsert v.pendingPub pid id } := by
  have hmono := h.vals_mapInsert_mono ho hp h.tps fun q w hq => let ⟨x, hx, hpx, _⟩ := h.tp q w hq; ⟨x, hx, hpx⟩
  exact { h with
    tps := h.tps.mapInsert _ _
    tp := fun q w hq => (lookup_mapInsert_some hq).elim (fun a => by rw [a.1, a.2]; exact ⟨o, ho, hp, hk⟩) (fun a => h.tp q w a.2)
    loc := fun i x hx => (h.loc i x hx).imp_left (Located.mono (v := v) · (·) (·) (·) (·) (·) (hmono i) (·))
    p3 := fun i x q hx hpx => (h.p3 i x q hx hpx).elim .inl (fun a => by cases a.1)
    pr := fun i x hx hpr => (h.pr i x hx hpr).imp_right (.imp_left (hmono i))
    pr2 := fun i hi x hx hpr => hmono i (h.pr2 i hi x hx hpr)
    h1 := fun hs => absurd hs hnpc
    f := fun hs => by
      obtain ⟨rm, hrm, hlen, hc⟩ := h.f hs
      refine ⟨rm, hrm, ?_, fun i hi x hx hkx => .inl ?_⟩
      · show (mapInsert v.pendingPub pid id).length ≤ rm
        rw [mapInsert_length _ h.tps]
        split
        · exact hlen
        · rename_i hnone
          rcases hc id hcur o ho hk with a | a
          · exfalso
            obtain ⟨q, hq⟩ := lookup_of_mem_vals h.tps a
            obtain ⟨x, hx, hpx, _⟩ := h.tp q id hq
            rw [ho] at hx; cases hx
            rw [hp] at hpx; cases hpx
            rw [hq] at hnone; exact hnone rfl
          · omega
      · have : i = id := by rw [hcur] at hi; cases hi; rfl
        rw [this]; exact (mem_vals_mapInsert h.tps).1 }

theorem Big.insertPendingNonPub {S : List Nat} {v : View} (h : Big S [] v) {id pid : Nat} {o : Op} (ho : v.ops.lookup id = some o)
    (hp : o.packetId = some pid) (hk : isSubOrUnsub o.packet = true) (hnpc : v.state ≠ .pendingConnack) :
    Big S [] { v with pendingNonPub := mapInsert v.pendingNonPub pid id } := by
  have hmono := h.vals_mapInsert_mono ho hp h.tns fun q w hq => let ⟨x, hx, hpx, _⟩ := h.tn q w hq; ⟨x, hx, hpx⟩
  exact { h with
    tns := h.tns.mapInsert _ _
    tn := fun q w hq => (lookup_mapInsert_some hq).elim (fun a => by rw [a.1, a.2]; exact ⟨o, ho, hp, hk⟩) (fun a => h.tn q w a.2)
    loc := fun i x hx => (h.loc i x hx).imp_left (Located.mono (v := v) · (·) (·) (·) (·) (·) (·) (hmono i))
    p3 := fun i x q hx hpx => (h.p3 i x q hx hpx).elim .inl (fun a => by cases a.1)
    h1 := fun hs => absurd hs hnpc }

theorem Big.pushWC {S : List Nat} {v : View} (h : Big S [] v) {id : Nat} {o : Op} (ho : v.ops.lookup id = some o)
    (hn : needsPacketId o.packet = false) (hcur : v.current = some id) : Big S [] { v with pendingWC := v.pendingWC ++ [id] } := by
  refine h.setPendingWC (v.pendingWC ++ [id]) (fun i hi => .inl (List.mem_append_left _ hi)) (fun i hi => .inr hi) ?_ ?_ ?_
  · intro i hi
    rcases List.mem_append.mp hi with a | a
    · exact h.qb.1 i (List.mem_append_right _ a)
    · rw [List.mem_singleton.mp a]; exact h.qb.2 id hcur
  · intro i hi x hx
    rcases List.mem_append.mp hi with a | a
    · exact h.wc i a x hx
    · rw [List.mem_singleton.mp a] at hx; rw [ho] at hx; cases hx; exact hn
  · intro hs i hi x hx
    rcases List.mem_append.mp hi with a | a
    · exact (h.h1 hs).1 i (List.mem_append_right _ a) x hx
    · rw [List.mem_singleton.mp a] at hx
      exact (h.h1 hs).2.1 id hcur x hx

/-- `on_current_operation_fully_written`, the filing step -/
theorem fileWritten_big (e : Engine) (id : Nat) (o : Op) (h : Big [] [] e.view) (ho : e.ops.lookup id = some o) (hc : e.current = some id)
    (hst : e.state = .connected ∨ e.state = .pendingConnack) :
    Big [] [] (e.fileWritten id o).view ∧
    (id ∈ (e.fileWritten id o).pendingWC ∨ id ∈ vals (e.fileWritten id o).pendingPub ∨ id ∈ vals (e.fileWritten id o).pendingNonPub) ∧ SV e (e.fileWritten id o) ∧
    (e.fileWritten id o).ops = e.ops ∧ (e.fileWritten id o).current = e.current := by
  have ho' : e.view.ops.lookup id = some o := ho
  have hc' : e.view.current = some id := hc
  -- a packet that needs an id is written only while Connected, and carries its id
  have hneed : needsPacketId o.packet = true → e.view.state ≠ .pendingConnack ∧ o.packetId = some (pktPid o.packet) := by
    intro hn
    have hconn : e.state = .connected := by
      rcases hst with a | a
      · exact a
      · have := (connect_class _ ((h.h1 a).2.1 id hc' o ho')).2
        rw [this] at hn; cases hn
    refine ⟨by show e.state ≠ _; rw [hconn]; decide, ?_⟩
    obtain ⟨pid, hpid⟩ := Option.isSome_iff_exists.mp (h.c1 hconn id hc' o ho' hn)
    rw [hpid, h.p4 id o pid ho' hpid]
  generalize hf : e.fileWritten id o = e'
  rcases fileWritten_cases e id o with ⟨hk, hn, heq⟩ | ⟨hk, hn, heq⟩ | ⟨hn, heq | heq⟩ <;> rw [hf] at heq <;> subst heq
  · obtain ⟨hnpc, hpid⟩ := hneed hn
    exact ⟨h.insertPendingNonPub ho' hpid hk hnpc, .inr (.inr (mem_vals_mapInsert h.tns).1), SV.of_frame rfl rfl rfl, rfl, rfl⟩
  · obtain ⟨hnpc, hpid⟩ := hneed hn
    exact ⟨h.insertPendingPub ho' hpid hk hnpc hc', .inr (.inl (mem_vals_mapInsert h.tps).1), SV.of_frame rfl rfl rfl, rfl, rfl⟩
  · exact ⟨(h.pushWC ho' hn hc').setState .pendingDisconnect (fun hh => by cases hh) (fun hh => by cases hh) (fun hh => by cases hh),
      .inl (List.mem_append_right _ (List.mem_singleton.mpr rfl)),
      ⟨List.suffix_refl _, List.suffix_refl _, (fun _ hh => by cases hh), (fun hh => by cases hh), (fun hh => by cases hh)⟩, rfl, rfl⟩
  · exact ⟨h.pushWC ho' hn hc', .inl (List.mem_append_right _ (List.mem_singleton.mpr rfl)), SV.of_frame rfl rfl rfl, rfl, rfl⟩

theorem Big.setNoTimeouts {S U : List Nat} {v : View} (h : Big S U v) (b : Bool) (hb : v.state = .pendingConnack → b = true) :
    Big S U { v with noTimeouts := b } := by
  have hh : v.state = .pendingConnack →
      (∀ id ∈ v.highQ ++ v.pendingWC, ∀ o, v.ops.lookup id = some o → isConnectPacket o.packet = true) ∧
      (∀ id, v.current = some id → ∀ o, v.ops.lookup id = some o → isConnectPacket o.packet = true) ∧
      v.pendingPub = [] ∧ v.pendingNonPub = [] ∧ b = true := by
    intro hs
    obtain ⟨a, c, d, e, _⟩ := h.h1 hs
    exact ⟨a, c, d, e, hb hs⟩
  exact { h with h1 := hh }

theorem connect_not_userKind (p : Packet) (h : isConnectPacket p = true) : isUserKind p = false := by
  cases p <;> simp [isConnectPacket] at h <;> rfl

theorem armPingDeadline_view (e : Engine) (o : Op) : (e.armPingDeadline o).view = e.view := by
  obtain ⟨pd, np, h, _⟩ := armPingDeadline_shape e o
  rw [h]; rfl

/-- `on_current_operation_fully_written` -/
theorem onFullyWritten_out (e e3 : Engine) (hw : e.onFullyWritten = some e3) (hok : e.core.Ok) (h : Big [] [] e.view)
    (hst : e.state = .connected ∨ e.state = .pendingConnack) : Big [] [] e3.view ∧ SV e e3 := by
  obtain ⟨id, o, hc, ho, hw⟩ := onFullyWritten_cases hw
  have hid := hok.id_eq (show e.core.ops.lookup id = some o from ho)
  subst hid
  obtain ⟨h1, hloc, sv1, hops, hcur1⟩ := fileWritten_big e o.id o h ho hc hst
  generalize e.fileWritten o.id o = e1 at hw h1 hloc sv1 hops hcur1
  -- the ping base is recorded on the operation
  have ho1 : e1.view.ops.lookup o.id = some o := by show e1.ops.lookup o.id = _; rw [hops]; exact ho
  have h2 : Big [] [] (e1.setOp { o with pingBase := some e.now }).view := by
    rw [setOp_view]
    exact h1.replace (o' := { o with pingBase := some e.now }) ho1 rfl rfl rfl rfl rfl rfl
      (fun hp => h1.pr o.id o ho1 hp) (fun hi hk => h1.h2 o.id hi o ho1 hk) (fun hi hp => h1.pr2 o.id hi o ho1 hp)
  have hlook2 : (e1.setOp { o with pingBase := some e.now }).op? o.id = some { o with pingBase := some e.now } :=
    lookup_mapInsert_self _ _ _
  have hcur2 : (e1.setOp { o with pingBase := some e.now }).current = some o.id := hcur1.trans hc
  have sv2 : SV e (e1.setOp { o with pingBase := some e.now }) := sv1.trans (SV.of_frame rfl rfl rfl)
  have hloc2 : o.id ∈ (e1.setOp { o with pingBase := some e.now }).pendingWC ∨ o.id ∈ vals (e1.setOp { o with pingBase := some e.now }).pendingPub ∨
      o.id ∈ vals (e1.setOp { o with pingBase := some e.now }).pendingNonPub := hloc
  generalize e1.setOp { o with pingBase := some e.now } = e2 at hw h2 hlook2 hcur2 sv2 hloc2
  -- the ack timeout, if the operation has one
  have h3 : Big [] [] (e2.startAckTimeout o.id).view := by
    rcases startAckTimeout_cases e2 o.id with hE | ⟨o2, t, ho2, hat, hE⟩ <;> rw [hE]
    · exact h2
    · rw [hlook2] at ho2
      cases ho2
      have hu : o.user.bind (·.2) = some t := by
        unfold Op.ackTimeout at hat
        split at hat
        · cases hat
        · exact hat
      show Big [] [] { e2.view with noTimeouts := (e2.timeouts ++ [(o.id, e2.now + t)]).isEmpty }
      refine h2.setNoTimeouts _ ?_
      intro hs
      exfalso
      have hconn := (h.h1 (sv2.pc hs)).2.1 o.id hc o ho
      have huk := hok.userKind _ (mem_of_lookup (show e.core.ops.lookup o.id = some o from ho))
      cases hou : o.user with
      | none => rw [hou] at hu; cases hu
      | some u =>
        have := huk (by rw [hou]; rfl)
        rw [connect_not_userKind _ hconn] at this; cases this
  have hfr : (e2.startAckTimeout o.id).view.current = some o.id ∧ SV e2 (e2.startAckTimeout o.id) ∧
      (o.id ∈ (e2.startAckTimeout o.id).pendingWC ∨ o.id ∈ vals (e2.startAckTimeout o.id).pendingPub ∨
       o.id ∈ vals (e2.startAckTimeout o.id).pendingNonPub) := by
    obtain ⟨ts, hE⟩ := startAckTimeout_shape e2 o.id
    rw [hE]
    exact ⟨hcur2, SV.of_frame rfl rfl rfl, hloc2⟩
  subst hw
  generalize e2.startAckTimeout o.id = e2a at h3 hfr ⊢
  -- arming the PINGRESP deadline touches nothing the invariant reads
  obtain ⟨pd, np, hE, _⟩ := armPingDeadline_shape e2a o
  rw [hE]
  exact ⟨(h3.clearCurrent o.id hfr.1).drop_located (.inr (.inr (.inr (.inr hfr.2.2)))),
    sv2.trans (hfr.2.1.trans (SV.of_frame rfl rfl rfl))⟩

/-! ### service: the loop, ack timeouts and keep-alive, `service` itself -/

theorem serviceQueueAux_out (all : Bool) (cap : Nat) (fuel : Nat) (e : Engine) (hok : e.core.Ok) (h : Big [] [] e.view)
    (hall : all = true → e.state ≠ .pendingConnack) :
    Outcome (Engine.serviceQueueAux all cap fuel e) ∧ SV e (Engine.serviceQueueAux all cap fuel e).1 := by
  refine serviceQueueAux_ind all cap
    (fun e' => e'.core.Ok ∧ Big [] [] e'.view ∧ (all = true → e'.state ≠ .pendingConnack) ∧ SV e e')
    (fun x => Outcome x ∧ SV e x.1) (fun e' hi => ⟨Outcome.of_big hi.2.1, hi.2.2.2⟩) (fun e' hi hst => ?_) fuel e ⟨hok, h, hall, SV.refl e⟩
  obtain ⟨hok', h', hall', sv'⟩ := hi
  have so := seatCurrent_out e' all hok' h' (fun ha => hst.resolve_right (hall' ha))
  have sp := seatCurrent_pres e' all
  generalize e'.seatCurrent all = seat at so sp ⊢
  cases seat with
  | ret e1 r => exact ⟨so.1, sv'.trans so.2⟩
  | cont e1 => exact ⟨(sp hok').1, so.1, fun ha hpc => hall' ha (so.2.pc hpc), sv'.trans so.2⟩
  | encode e1 =>
    obtain ⟨h1, sv1, hste1⟩ := so
    have hok2 : (e1.encodeCurrent cap).1.core.Ok := (sp hok').1
    have h2 : Big [] [] (e1.encodeCurrent cap).1.view := h1
    have sv12 : SV e' (e1.encodeCurrent cap).1 := sv1.trans (SV.of_frame rfl rfl rfl)
    refine ⟨fun _ _ => ⟨Outcome.of_big h1, sv'.trans sv1⟩, fun _ _ _ _ _ => ⟨fun _ => ⟨Outcome.of_big h2, sv'.trans sv12⟩,
      fun _ _ => ⟨Outcome.of_big h2, sv'.trans sv12⟩, fun _ _ e3 hf => ?_⟩⟩
    -- the filing step sees the state the loop head checked
    have ow := onFullyWritten_out _ e3 hf hok2 h2 (by rw [show (e1.encodeCurrent cap).1.state = e1.state from rfl, hste1]; exact hst)
    exact ⟨(onFullyWritten_pres _ e3 hf hok2).1, ow.1, fun ha hpc => hall' ha (sv12.pc (ow.2.pc hpc)), (sv'.trans sv12).trans ow.2⟩

theorem serviceQueue_out (e : Engine) (all : Bool) (cap prefill : Nat) (hok : e.core.Ok) (h : Big [] [] e.view)
    (hall : all = true → e.state ≠ .pendingConnack) :
    Outcome (e.serviceQueue all cap prefill) ∧ SV e (e.serviceQueue all cap prefill).1 := by
  rw [serviceQueue_eq]
  unfold serviceQueueEnd
  have r := serviceQueueAux_out all cap (2 * (e.highQ.length + e.resubQ.length + e.userQ.length) + 4)
    { e with outBytes := List.replicate (min prefill cap) 0 } hok h hall
  generalize Engine.serviceQueueAux all cap (2 * (e.highQ.length + e.resubQ.length + e.userQ.length) + 4)
    { e with outBytes := List.replicate (min prefill cap) 0 } = x at r ⊢
  have a : SV e { e with outBytes := List.replicate (min prefill cap) 0 } := SV.of_frame rfl rfl rfl
  exact ⟨⟨r.1.1, r.1.2⟩, a.trans (r.2.trans (SV.of_frame rfl rfl rfl))⟩

theorem serviceKeepAlive_hk (e : Engine) (hst : e.state ≠ .pendingConnack) : HK e e.serviceKeepAlive.1 :=
  serviceKeepAlive_keeps (HK e) e (HK.refl e)
    (by
      have hk := createEnqueueHigh_hk e .pingreq true rfl hst
      rw [enqueue_created] at hk
      exact hk)
    (fun e2 s t hk hs => hk.trans (HK.of_eq rfl (by simp [Engine.view, hs])))

theorem processAckTimeouts_hk (fuel : Nat) (e : Engine) : HK e (Engine.processAckTimeouts fuel e).1 := by
  refine processAckTimeouts_keeps (HK e) (fun x id d _ _ hx => ?_) fuel e (HK.refl e)
  have h1 : HK x { x with timeouts := x.timeouts.erase (id, d) } := by
    refine ⟨⟨Pres.of_core_wc_to x.pendingWC (x.timeouts.erase (id, d)) rfl (fun _ h => h) (fun _ h => List.mem_of_mem_erase h), ?_⟩, ⟨rfl, rfl, .inl rfl⟩⟩
    intro _ h
    show Big [] [] { x.view with noTimeouts := (x.timeouts.erase (id, d)).isEmpty }
    refine h.setNoTimeouts _ fun hs => ?_
    have : x.timeouts = [] := List.isEmpty_iff.mp (h.h1 hs).2.2.2.2
    rw [this]; rfl
  exact hx.trans (h1.trans (completeFailure_hk _ id "AckTimeout"))

theorem processAckTimeouts_nil (fuel : Nat) (e : Engine) (h : e.timeouts = []) : Engine.processAckTimeouts fuel e = (e, .ok) := by
  cases fuel with
  | zero => rfl
  | succ f =>
    unfold Engine.processAckTimeouts
    have : e.nextDueTimeout = none := by unfold Engine.nextDueTimeout; rw [h]; rfl
    rw [this]

/-- `service`, the work by state -/
theorem serviceCore_out (e : Engine) (cap prefill : Nat) (hok : e.core.Ok) (h : Big [] [] e.view) :
    Outcome (e.serviceCore cap prefill) ∧ SV e (e.serviceCore cap prefill).1 := by
  have pat : ∀ en : Engine, en.core.Ok → Big [] [] en.view →
      Outcome (Engine.processAckTimeouts (en.timeouts.length + 1) en) ∧ SV en (Engine.processAckTimeouts (en.timeouts.length + 1) en).1 :=
    fun en hk hb => ⟨Outcome.of_big ((processAckTimeouts_hk _ en).stp.keeps hk hb), (processAckTimeouts_hk _ en).sv⟩
  rcases serviceCore_cases e cap prefill with ⟨_, hE⟩ | ⟨_, hE⟩ | ⟨_, hE⟩ | ⟨_, ⟨_, hE⟩ | ⟨d, _, hE⟩⟩ | ⟨hst, hE⟩ <;> rw [hE]
  · exact ⟨Outcome.of_big h, SV.refl e⟩
  · exact ⟨Outcome.of_big h, SV.refl e⟩
  · exact pat e hok h
  · exact ⟨Outcome.of_big h, SV.refl e⟩
  · exact ite_elim (fun x => Outcome x ∧ SV e x.1) (fun _ => ⟨Outcome.of_big h, SV.refl e⟩)
      (fun _ => serviceQueue_out e false cap prefill hok h (fun hh => by cases hh))
  · have npc : ∀ {en : Engine}, SV e en → en.state ≠ .pendingConnack := fun sv hh => by
      have := sv.pc hh; rw [hst] at this; cases this
    have hk0 := processAckTimeouts_hk (e.timeouts.length + 1) e
    have hok0 := (hk0.stp.pres hok).1
    have h0 := hk0.stp.keeps hok h
    have sv0 := hk0.sv
    generalize Engine.processAckTimeouts (e.timeouts.length + 1) e = x0 at hok0 h0 sv0 ⊢
    refine andThen_elim (fun x => Outcome x ∧ SV e x.1) (fun _ => ⟨Outcome.of_big h0, sv0⟩) (fun _ => ?_)
    have hka := serviceKeepAlive_hk x0.1 (npc sv0)
    have hoka := (hka.stp.pres hok0).1
    have ha := hka.stp.keeps hok0 h0
    have sva := sv0.trans hka.sv
    generalize x0.1.serviceKeepAlive = xa at hoka ha sva ⊢
    refine andThen_elim (fun x => Outcome x ∧ SV e x.1) (fun _ => ⟨Outcome.of_big ha, sva⟩) (fun _ => ?_)
    have rb := serviceQueue_out xa.1 true cap prefill hoka ha (fun _ => npc sva)
    have hokb := (serviceQueue_pres xa.1 true cap prefill hoka).1
    generalize xa.1.serviceQueue true cap prefill = xb at rb hokb ⊢
    refine andThen_elim (fun x => Outcome x ∧ SV e x.1) (fun _ => ⟨rb.1, sva.trans rb.2⟩) (fun hbok => ?_)
    have rc := pat xb.1 hokb (rb.1.2 (fun k hk => by rw [hbok] at hk; cases hk))
    exact ⟨rc.1, (sva.trans rb.2).trans rc.2⟩

/-- **`service` keeps the invariant**, for every buffer size and clock value -/
theorem service_inv (e : Engine) (cap prefill : Nat) (hinv : Inv e) : Inv (e.service cap prefill).1 := by
  obtain ⟨hok, h, hD, hS⟩ := hinv
  have hokc := (serviceCore_pres e cap prefill hok).1
  have oc := serviceCore_out e cap prefill hok h
  by_cases hdis : e.state = .disconnected
  · rcases serviceCore_cases e cap prefill with ⟨_, hE⟩ | ⟨hs, _⟩ | ⟨hs, _⟩ | ⟨hs, _⟩ | ⟨hs, _⟩
    · rcases service_cases e cap prefill with ⟨_, hS'⟩ | ⟨k, hk, _⟩
      · rw [hS', hE]; exact ⟨hok, h, hD, hS⟩
      · rw [hE] at hk; cases hk
    all_goals rw [hdis] at hs; cases hs
  · rcases service_cases e cap prefill with ⟨hne, hE⟩ | ⟨k, _, hE⟩ <;> rw [hE]
    · refine ⟨hokc, oc.1.2 hne, fun hd => absurd hd (oc.2.nd hdis), fun hc => ?_⟩
      have := hS (oc.2.conn hc)
      exact ⟨sortedNat_suffix oc.2.sufU this.1, sortedNat_suffix oc.2.sufR this.2⟩
    · exact ⟨((Pres.refl _).halt hokc).1, oc.1.1, (fun hd => by cases hd), (fun hd => by cases hd)⟩

/-! ### the other entry points, and every event -/

theorem handleClosed_inv (e : Engine) (hinv : Inv e) : Inv e.handleClosed.1 := by
  rw [handleClosed_fst]
  refine ite_elim Inv (fun _ => hinv) fun hd => ?_
  exact handleClosedCore_inv _ ((processAckTimeouts_hk (e.timeouts.length + 1) e).inv hinv (by simpa using hd)).1

theorem D1_iff (e : Engine) : D1 e.view ↔ (e.state = .disconnected → Quiet e ∧ e.pendingPub = [] ∧ e.pendingNonPub = []) := by
  constructor
  · intro h hd
    obtain ⟨a, b, c, d, f, g⟩ := h hd
    exact ⟨⟨a, b, f, List.isEmpty_iff.mp g⟩, c, d⟩
  · intro h hd
    obtain ⟨q, c, d⟩ := h hd
    exact ⟨q.current, q.highQ, c, d, q.pendingWC, by show e.timeouts.isEmpty = true; rw [q.timeouts]; rfl⟩

theorem submit_inv (e : Engine) (p : Packet) (user : Option (Nat × Option Nat)) (q : QueueKind) (front : Bool)
    (hk : user.isSome = true → isUserKind p = true)
    (hq : (q = .user ∧ front = false) ∨ (q = .high ∧ (∃ d, p = .disconnect d))) (hinv : Inv e) :
    Inv (e.submit p user q front).1 := by
  obtain ⟨hok, h, hD, hS⟩ := hinv
  obtain ⟨hpa, hkeep⟩ := submit_stp (S := []) (U := []) e p user q front hk hq
  obtain ⟨-, -, -, f4, f5, -⟩ := createOp_fields e p user
  have hk' := completeFailure_hk (e.createOp p user).1 e.nextOpId "OfflineQueuePolicyFailed"
  -- a DISCONNECT is accepted only while connected
  have hdis : ∀ d, ¬(!(e.createOp (.disconnect d) user).1.opPassesPolicy (.disconnect d)) = true → e.state = .connected := by
    intro d hpol
    have hp : (e.createOp (.disconnect d) user).1.opPassesPolicy (.disconnect d) = true := by simpa using hpol
    unfold Engine.opPassesPolicy at hp
    by_cases hc : e.state = .connected
    · exact hc
    · rw [show (e.createOp (.disconnect d) user).1.state = e.state from rfl, show (e.state == .connected) = false by simp [hc]] at hp
      simp [passesPolicy_disconnect] at hp
  refine ⟨hpa.core hok, hkeep hok h, ?_, ?_⟩
  · -- a Disconnected engine stays clean
    rw [D1_iff] at hD
    rw [submit_eq]
    refine fst_ite (fun x : Engine => D1 x.view) (fun _ => ?_) (fun hpol => ?_)
    · rw [D1_iff]
      intro hd
      obtain ⟨qq, c, d⟩ := hD (Classical.byContradiction fun hh => hk'.sv.nd (by rw [f5]; exact hh) hd)
      exact ⟨completeFailure_quiet _ _ _ ⟨qq.current, f4.trans qq.highQ, qq.pendingWC, qq.timeouts⟩,
        (completeFailure_tables _ _ _).1 c, (completeFailure_tables _ _ _).2 d⟩
    · rcases hq with ⟨rfl, rfl⟩ | ⟨rfl, d, rfl⟩
      · rw [D1_iff]
        intro hd
        obtain ⟨qq, c, dd⟩ := hD hd
        exact ⟨⟨qq.current, qq.highQ, qq.pendingWC, qq.timeouts⟩, c, dd⟩
      · intro hd
        have hd' : e.state = .disconnected := hd
        rw [hdis d hpol] at hd'; cases hd'
  · -- submission order
    rw [submit_eq]
    refine fst_ite (fun x : Engine => SQ x.view) (fun _ hc => ?_) (fun hpol hc => ?_)
    · have := hS (show e.state = .connected from f5 ▸ hk'.sv.conn hc)
      rw [hk'.qv.1, hk'.qv.2.1]
      exact this
    · rcases hq with ⟨rfl, rfl⟩ | ⟨rfl, d, rfl⟩
      · have := hS hc
        exact ⟨sortedNat_append_singleton _ _ this.1 (fun y hy => Nat.le_of_lt (h.lt_userQ y hy)), this.2⟩
      · exact hS (hdis d hpol)

theorem handleUser_inv (e : Engine) (u : UserEvent) (hinv : Inv e) : Inv (e.handleUser u).1 := by
  cases u with
  | publish p i t => exact submit_inv e (.publish p) (some (i, t)) .user false (fun _ => rfl) (.inl ⟨rfl, rfl⟩) hinv
  | subscribe p i t => exact submit_inv e (.subscribe p) (some (i, t)) .user false (fun _ => rfl) (.inl ⟨rfl, rfl⟩) hinv
  | unsubscribe p i t => exact submit_inv e (.unsubscribe p) (some (i, t)) .user false (fun _ => rfl) (.inl ⟨rfl, rfl⟩) hinv
  | disconnect p => exact submit_inv e (.disconnect p) none .high true (by simp) (.inr ⟨rfl, p, rfl⟩) hinv

theorem handleOpened_state (e : Engine) (d : Nat) : (e.handleOpened d).1.state = .halted ∨ (e.handleOpened d).1.state = .pendingConnack := by
  rw [handleOpened_eq]
  exact fst_ite (fun x : Engine => x.state = .halted ∨ x.state = .pendingConnack) (fun _ => .inl rfl) (fun _ => .inr rfl)

theorem handleOpened_inv (e : Engine) (d : Nat) (hinv : Inv e) : Inv (e.handleOpened d).1 := by
  obtain ⟨hok, h, hD, hS⟩ := hinv
  have st := handleOpened_stp e d hD
  have hne : (e.handleOpened d).1.view.state ≠ .disconnected ∧ (e.handleOpened d).1.view.state ≠ .connected := by
    rcases handleOpened_state e d with a | a <;>
      (rw [show (e.handleOpened d).1.view.state = (e.handleOpened d).1.state from rfl, a]; exact ⟨by decide, by decide⟩)
  exact ⟨(st.pres hok).1, st.keeps hok h, fun hd => absurd hd hne.1, fun hd => absurd hd hne.2⟩

theorem handleWriteCompletion_inv (e : Engine) (hinv : Inv e) : Inv e.handleWriteCompletion.1 := by
  by_cases hd : e.state = .disconnected
  · exact handleWriteCompletion_elim (fun x => Inv x.1) e hinv (fun h => absurd hd h) (fun h => absurd hd h)
  · have hqv : QV e.view e.handleWriteCompletion.1.view :=
      handleWriteCompletion_elim (fun x => QV e.view x.1.view) e (QV.refl _) (fun _ => ⟨rfl, rfl, .inr rfl⟩) fun _ =>
        (show QV e.view ({ e with pendingWrite := false, pendingWC := [] } : Engine).view from ⟨rfl, rfl, .inl rfl⟩).trans
          (succeedAll_keeps (fun x => QV ({ e with pendingWrite := false, pendingWC := [] } : Engine).view x.view) _
            (fun x id _ hx => hx.trans (completeSuccess_erases x id none).qv) _ (QV.refl _))
    exact ((HK.mk (handleWriteCompletion_stp e) hqv).inv hinv hd).1

/-- `reset` (client closed): everything is dropped -/
theorem reset_inv (e : Engine) (hinv : Inv e) : Inv e.reset := by
  have hokr := (reset_pres e hinv.1).1
  obtain ⟨hs, ho, hu, hr, hh, hc, ha, hp, hn, hw, ht, hnp⟩ := reset_fields e
  generalize e.reset = r at hokr hs ho hu hr hh hc ha hp hn hw ht hnp ⊢
  have hne : r.view.state ≠ .pendingConnack ∧ r.view.state ≠ .connected := by
    rcases hs with a | a <;> (rw [show r.view.state = r.state from rfl, a]; exact ⟨by decide, by decide⟩)
  refine ⟨hokr, ?_, fun _ => ⟨hc, hh, hp, hn, hw, ?_⟩, fun hd => absurd hd hne.2⟩
  · refine Big.empty hne ho ?_ hc ha hp hn ?_
    · show r.userQ ++ r.resubQ ++ r.highQ ++ r.pendingWC = []
      rw [hu, hr, hh, hw]; rfl
    · show 1 ≤ r.nextPacketId ∧ r.nextPacketId ≤ 65535
      rw [hnp]; exact ⟨Nat.le_refl 1, by decide⟩
  · show r.timeouts.isEmpty = true
    rw [ht]; rfl

/-- **One step keeps the invariant**, whatever the event -/
theorem step_inv (e : Engine) (ev : Event) (hinv : Inv e) : Inv (step e ev).1 :=
  step_keeps Inv Inv ev hinv.begin (fun x _ h => h.begin x.now) (fun _ => Inv.halt) handleUser_inv handleOpened_inv handleClosed_inv
    handleData_inv handleWriteCompletion_inv (fun b _ cap pre _ => service_inv b cap pre) (fun _ h => h) reset_inv

theorem new_inv (cfg : Config) : Inv (Engine.new cfg) := by
  refine ⟨new_core_ok cfg, ?_, ?_, ?_⟩
  · exact Big.empty ⟨nofun, nofun⟩ rfl rfl rfl rfl rfl rfl ⟨Nat.le_refl 1, by show (1 : Nat) ≤ 65535; decide⟩
  · intro _; exact ⟨rfl, rfl, rfl, rfl, rfl, rfl⟩
  · intro hh; cases hh

theorem run_inv : ∀ (evs : List Event) (e : Engine), Inv e → Inv (runEvents e evs).1 :=
  fun evs e => runEvents_keeps Inv evs e (fun e ev _ => step_inv e ev)

/-- **Every history**: the invariant holds after any sequence of events from a fresh engine. -/
theorem inv_after (cfg : Config) (evs : List Event) : Inv (runEvents (Engine.new cfg) evs).1 :=
  run_inv evs _ (new_inv cfg)

end GV
