/-
  Proofs/DecodeSlice.lean — the slice-level decoder (`decodeBytes`, the literal transcription of decode.rs that
  the driver executes and the correspondence check compares with the implementation) computes exactly what
  the byte-at-a-time machine `feed` computes (about which the chunking theorems are stated).
-/
import GV.Proofs.Decoder
namespace GV

/-- the invariant of a decoder between calls -/
def DInv (d : Decoder) : Prop :=
  match d.state with
  | .readType => d.scratch = []
  | .readLength => True
  | .readBody => d.scratch.length < d.remaining
  | .terminal => False

theorem DInv_init : DInv {} := rfl

def prependPackets (ps : List Packet) (r : FeedResult) : FeedResult := { r with packets := ps ++ r.packets }

theorem prependPackets_nil (r : FeedResult) : prependPackets [] r = r := by simp [prependPackets]

theorem prependPackets_twice (a b : List Packet) (r : FeedResult) : prependPackets a (prependPackets b r) = prependPackets (a ++ b) r := by simp [prependPackets, List.append_assoc]

theorem prependPackets_mk (ps qs : List Packet) (d : Decoder) (e : Option DecErr) :
    prependPackets ps { dec := d, packets := qs, err := e } = { dec := d, packets := ps ++ qs, err := e } := rfl

theorem prependPackets_feed_nil (cfg : DecodeCfg) (ps : List Packet) (d : Decoder) :
    prependPackets ps (feed cfg d []) = { dec := d, packets := ps, err := none } := by
  rw [feed, prependPackets_mk, List.append_nil]

theorem feed_cons_ok (cfg : DecodeCfg) (d d' : Decoder) (b : UInt8) (rest : Bytes) (ps : List Packet)
    (h : stepByte cfg d b = (d', ps, none)) : feed cfg d (b :: rest) = prependPackets ps (feed cfg d' rest) := by
  simp [feed, h, prependPackets]

theorem feed_cons_err (cfg : DecodeCfg) (d d' : Decoder) (b : UInt8) (rest : Bytes) (ps : List Packet) (e : DecErr)
    (h : stepByte cfg d b = (d', ps, some e)) : feed cfg d (b :: rest) = { dec := d', packets := ps, err := some e } := by
  simp [feed, h]

theorem stepByte_body_partial (cfg : DecodeCfg) (d : Decoder) (x : UInt8) (hs : d.state = .readBody)
    (h : (d.scratch ++ [x]).length < d.remaining) : stepByte cfg d x = ({ d with scratch := d.scratch ++ [x] }, [], none) := by
  simp only [stepByte, hs, stepBody, h, ↓reduceIte]

theorem stepByte_body_last (cfg : DecodeCfg) (d : Decoder) (x : UInt8) (hs : d.state = .readBody)
    (h : ¬ (d.scratch ++ [x]).length < d.remaining) :
    stepByte cfg d x = (match decodePacket cfg.version d.firstByte (d.scratch ++ [x]) with
      | .ok p => ({ state := .readType, scratch := [], firstByte := 0, remaining := 0 }, [p], none)
      | .error e => ({ d with state := .terminal, scratch := d.scratch ++ [x] }, [], some e)) := by
  simp only [stepByte, hs, stepBody, h, ↓reduceIte]
  cases decodePacket cfg.version d.firstByte (d.scratch ++ [x]) <;> rfl

theorem stepLength_incomplete (cfg : DecodeCfg) (d : Decoder) (b : UInt8)
    (hnv : ∀ rl n, decodeVli (d.scratch ++ [b]) ≠ .value rl n) :
    stepLength cfg d b =
      (if (d.scratch ++ [b]).length ≥ 4 then ({ d with state := .terminal, scratch := d.scratch ++ [b] }, [], some .decodingFailure)
       else ({ d with scratch := d.scratch ++ [b] }, [], none)) := by
  unfold stepLength
  dsimp only
  cases hv : decodeVli (d.scratch ++ [b]) with
  | value rl n => exact absurd hv (hnv rl n)
  | _ => rfl

theorem processLength_incomplete (cfg : DecodeCfg) (d : Decoder) (b : UInt8) (r : Bytes)
    (hnv : ∀ rl n, decodeVli (d.scratch ++ [b]) ≠ .value rl n) :
    processLength cfg d (b :: r) =
      (if (d.scratch ++ [b]).length ≥ 4 then (.terminal .decodingFailure, { d with scratch := d.scratch ++ [b] }, r)
       else if !r.isEmpty then (.continue, { d with scratch := d.scratch ++ [b] }, r)
       else (.outOfData, { d with scratch := d.scratch ++ [b] }, r)) := by
  unfold processLength
  dsimp only
  cases hv : decodeVli (d.scratch ++ [b]) with
  | value rl n => exact absurd hv (hnv rl n)
  | _ => rfl

theorem stepLength_value (cfg : DecodeCfg) (d : Decoder) (b : UInt8) (rl : Nat) (n : Bytes)
    (hv : decodeVli (d.scratch ++ [b]) = .value rl n) :
    stepLength cfg d b =
      (if rl + 1 + (d.scratch ++ [b]).length ≤ cfg.limit then
         if rl = 0 then
           match decodePacket cfg.version d.firstByte [] with
           | .ok p => ({ state := .readType, scratch := [], firstByte := 0, remaining := 0 }, [p], none)
           | .error e => ({ d with state := .terminal, scratch := [], remaining := 0 }, [], some e)
         else ({ d with state := .readBody, scratch := [], remaining := rl }, [], none)
       else ({ d with state := .terminal, scratch := d.scratch ++ [b] }, [], some .decodingFailure)) := by
  unfold stepLength
  simp only [hv]
  by_cases h1 : rl + 1 + (d.scratch ++ [b]).length ≤ cfg.limit
  · rw [if_pos h1, if_pos h1]
    by_cases h2 : rl = 0
    · rw [if_pos h2, if_pos h2]
      cases decodePacket cfg.version d.firstByte [] <;> rfl
    · rw [if_neg h2, if_neg h2]
  · rw [if_neg h1, if_neg h1]

theorem processLength_value (cfg : DecodeCfg) (d : Decoder) (b : UInt8) (r : Bytes) (rl : Nat) (n : Bytes)
    (hv : decodeVli (d.scratch ++ [b]) = .value rl n) :
    processLength cfg d (b :: r) =
      (if rl + 1 + (d.scratch ++ [b]).length ≤ cfg.limit then
        (.continue, { d with remaining := rl, state := .readBody, scratch := [] }, r)
      else (.terminal .decodingFailure, { d with scratch := d.scratch ++ [b] }, r)) := by
  unfold processLength
  simp only [hv]

/-- feeding fewer bytes than the body still needs only accumulates them -/
theorem feed_body_partial (cfg : DecodeCfg) (xs : Bytes) : ∀ (d : Decoder), d.state = .readBody →
    d.scratch.length + xs.length < d.remaining →
    feed cfg d xs = { dec := { d with scratch := d.scratch ++ xs }, packets := [], err := none } := by
  induction xs with
  | nil => intro d _ _; rw [feed, List.append_nil]
  | cons x xs ih =>
    intro d hs hlen
    have h1 : (d.scratch ++ [x]).length + xs.length < d.remaining := by
      rw [List.length_append, Nat.add_assoc, Nat.add_comm _ xs.length]; exact hlen
    rw [feed_cons_ok cfg d _ x xs [] (stepByte_body_partial cfg d x hs (Nat.lt_of_le_of_lt (Nat.le_add_right _ _) h1)),
      prependPackets_nil, ih { d with scratch := d.scratch ++ [x] } hs h1, List.append_assoc]
    rfl

/-- feeding at least the `n` bytes the body still needs decodes the packet and goes on with the rest -/
theorem feed_body_complete (cfg : DecodeCfg) (bs : Bytes) : ∀ (d : Decoder) (n : Nat), d.state = .readBody →
    d.scratch.length + (n + 1) = d.remaining → n + 1 ≤ bs.length →
    feed cfg d bs =
      (match decodePacket cfg.version d.firstByte (d.scratch ++ bs.take (n + 1)) with
       | .ok p => prependPackets [p] (feed cfg {} (bs.drop (n + 1)))
       | .error e => { dec := { d with state := .terminal, scratch := d.scratch ++ bs.take (n + 1) }, packets := [], err := some e }) := by
  induction bs with
  | nil => intro d n _ _ hle; cases hle
  | cons x xs ih =>
    intro d n hs hn hle
    cases n with
    | zero =>
      have hstep := stepByte_body_last cfg d x hs (by rw [List.length_append]; exact Nat.not_lt.2 (Nat.le_of_eq hn.symm))
      show _ = match decodePacket cfg.version d.firstByte (d.scratch ++ [x]) with | .ok p => _ | .error e => _
      cases hp : decodePacket cfg.version d.firstByte (d.scratch ++ [x]) with
      | ok p => rw [hp] at hstep; exact feed_cons_ok cfg d _ x xs [p] hstep
      | error e => rw [hp] at hstep; exact feed_cons_err cfg d _ x xs [] e hstep
    | succ n =>
      have h1 : (d.scratch ++ [x]).length + (n + 1) = d.remaining := by
        rw [List.length_append, Nat.add_assoc, Nat.add_comm _ (n + 1)]; exact hn
      rw [feed_cons_ok cfg d _ x xs [] (stepByte_body_partial cfg d x hs (h1 ▸ Nat.lt_add_of_pos_right (Nat.succ_pos n))), prependPackets_nil,
        ih { d with scratch := d.scratch ++ [x] } n hs h1 (Nat.le_of_succ_le_succ hle), List.append_assoc]
      rfl

/-- a byte consumed pays for two rounds of the loop -/
theorem fuel_after_byte {n fuel : Nat} (h : 2 * (n + 1) + 1 ≤ fuel + 1) : 2 * n + 1 ≤ fuel := by omega

/-- **The executed decoder is the proven one.**  For a decoder in a between-calls state and enough loop fuel
    (`decodeBytes` supplies `2 * length + 3`), the slice-level loop returns exactly `feed`'s state, packets and verdict. -/
theorem decodeLoop_eq_feed (cfg : DecodeCfg) : ∀ (fuel : Nat) (d : Decoder) (bs : Bytes) (acc : List Packet),
    DInv d → 2 * bs.length + 1 ≤ fuel → decodeLoop cfg fuel d bs acc = prependPackets acc.reverse (feed cfg d bs) := by
  intro fuel
  induction fuel using Nat.strongRecOn with | ind fuel ih =>
  intro d bs acc hinv hf
  cases fuel with
  | zero => exact absurd hf (Nat.not_succ_le_zero _)
  | succ fuel =>
    unfold DInv at hinv
    rw [decodeLoop]
    cases hs : d.state with
    | terminal => rw [hs] at hinv; exact hinv.elim
    | readType =>
      cases bs with
      | nil => exact (prependPackets_feed_nil cfg _ d).symm
      | cons b r =>
        have hsc : d.scratch = [] := by rw [hs] at hinv; exact hinv
        have hstep : stepByte cfg d b = ({ d with firstByte := b, state := .readLength }, [], none) := by
          rw [stepByte, hs]
          show (_, _, _) = ((⟨.readLength, d.scratch, b, d.remaining⟩ : Decoder), [], none)
          rw [hsc]
        rw [feed_cons_ok cfg d _ b r [] hstep, prependPackets_nil]
        exact ih fuel (Nat.lt_succ_self _) _ r acc trivial (fuel_after_byte hf)
    | readLength =>
      cases bs with
      | nil => exact (prependPackets_feed_nil cfg _ d).symm
      | cons b r =>
        rw [List.length_cons] at hf
        have hsb := stepByte_readLength cfg d b hs
        dsimp only
        by_cases hval : ∃ rl n, decodeVli (d.scratch ++ [b]) = .value rl n
        · obtain ⟨rl, n, hv⟩ := hval
          have hsl := hsb.trans (stepLength_value cfg d b rl n hv)
          rw [processLength_value cfg d b r rl n hv]
          by_cases hlim : rl + 1 + (d.scratch ++ [b]).length ≤ cfg.limit
          · rw [if_pos hlim] at hsl ⊢
            by_cases hz : rl = 0
            · -- zero-length body: the loop goes round once more on the same slice
              rw [if_pos hz] at hsl
              subst hz
              cases fuel with
              | zero => exact absurd (fuel_after_byte hf) (Nat.not_succ_le_zero _)
              | succ fuel' =>
                dsimp only
                rw [decodeLoop]
                simp only [processBody, List.length_nil, Nat.sub_self, Nat.not_lt_zero, ↓reduceIte, gt_iff_lt,
                  List.isEmpty_nil, List.take_zero, List.drop_zero]
                cases hp : decodePacket cfg.version d.firstByte [] with
                | ok p =>
                  rw [hp] at hsl
                  rw [feed_cons_ok cfg d _ b r [p] hsl, prependPackets_twice, ← List.reverse_cons]
                  exact ih fuel' (Nat.lt_succ_of_lt (Nat.lt_succ_self _)) _ r (p :: acc) DInv_init (by omega)
                | error e =>
                  rw [hp] at hsl
                  rw [feed_cons_err cfg d _ b r [] e hsl, prependPackets_mk, List.append_nil]
            · rw [if_neg hz] at hsl
              rw [feed_cons_ok cfg d _ b r [] hsl, prependPackets_nil]
              exact ih fuel (Nat.lt_succ_self _) _ r acc (Nat.pos_of_ne_zero hz) (fuel_after_byte hf)
          · rw [if_neg hlim] at hsl ⊢
            rw [feed_cons_err cfg d _ b r [] _ hsl, prependPackets_mk, List.append_nil]
        · -- the length prefix is not complete after this byte (insufficient or malformed): same treatment on both sides
          have hnv : ∀ rl n, decodeVli (d.scratch ++ [b]) ≠ .value rl n := fun rl n h => hval ⟨rl, n, h⟩
          have hsl := hsb.trans (stepLength_incomplete cfg d b hnv)
          rw [processLength_incomplete cfg d b r hnv]
          by_cases h4 : (d.scratch ++ [b]).length ≥ 4
          · rw [if_pos h4] at hsl ⊢
            rw [feed_cons_err cfg d _ b r [] _ hsl, prependPackets_mk, List.append_nil]
          · rw [if_neg h4] at hsl ⊢
            rw [feed_cons_ok cfg d _ b r [] hsl, prependPackets_nil]
            cases r with
            | nil => exact (prependPackets_feed_nil cfg _ _).symm
            | cons c r' =>
              exact ih fuel (Nat.lt_succ_self _) _ (c :: r') acc (by unfold DInv; rw [hs]; trivial) (fuel_after_byte hf)
    | readBody =>
      rw [hs] at hinv
      dsimp only at hinv ⊢
      unfold processBody
      dsimp only
      by_cases hneed : d.remaining - d.scratch.length > bs.length
      · rw [if_pos hneed, feed_body_partial cfg bs d hs (Nat.add_lt_of_lt_sub' hneed), prependPackets_mk, List.append_nil]
      · obtain ⟨n, hn⟩ : ∃ n, d.remaining - d.scratch.length = n + 1 := ⟨_, (Nat.succ_pred_eq_of_pos (Nat.sub_pos_of_lt hinv)).symm⟩
        rw [if_neg hneed, hn, feed_body_complete cfg bs d n hs (hn ▸ Nat.add_sub_of_le (Nat.le_of_lt hinv))
            (hn ▸ Nat.le_of_not_lt hneed),
          show (if d.scratch.isEmpty then bs.take (n + 1) else d.scratch ++ bs.take (n + 1)) = d.scratch ++ bs.take (n + 1) by
            cases d.scratch <;> rfl]
        cases decodePacket cfg.version d.firstByte (d.scratch ++ bs.take (n + 1)) with
        | ok p =>
          dsimp only
          rw [prependPackets_twice, ← List.reverse_cons]
          exact ih fuel (Nat.lt_succ_self _) _ _ (p :: acc) DInv_init (by rw [List.length_drop]; omega)
        | error e =>
          dsimp only
          rw [prependPackets_mk, List.append_nil]

theorem decodeBytes_eq_feed (cfg : DecodeCfg) (d : Decoder) (bs : Bytes) (h : DInv d) : decodeBytes cfg d bs = feed cfg d bs := by
  unfold decodeBytes
  rw [decodeLoop_eq_feed cfg _ d bs [] h (by omega)]
  simp [prependPackets]

theorem stepByte_keeps_inv (cfg : DecodeCfg) (d d' : Decoder) (b : UInt8) (ps : List Packet) (h : DInv d)
    (hstep : stepByte cfg d b = (d', ps, none)) : DInv d' := by
  unfold DInv at h
  cases hs : d.state with
  | terminal => rw [hs] at h; exact h.elim
  | readType =>
    rw [stepByte, hs] at hstep
    cases hstep
    trivial
  | readLength =>
    rw [stepByte_readLength cfg d b hs] at hstep
    by_cases hval : ∃ rl n, decodeVli (d.scratch ++ [b]) = .value rl n
    · obtain ⟨rl, n, hv⟩ := hval
      rw [stepLength_value cfg d b rl n hv] at hstep
      split at hstep
      · split at hstep
        · split at hstep
          · cases hstep; exact DInv_init
          · cases hstep
        · next hz => cases hstep; exact Nat.pos_of_ne_zero hz
      · cases hstep
    · rw [stepLength_incomplete cfg d b fun rl n hv => hval ⟨rl, n, hv⟩] at hstep
      split at hstep
      · cases hstep
      · cases hstep
        unfold DInv
        rw [hs]
        trivial
  | readBody =>
    by_cases hlt : (d.scratch ++ [b]).length < d.remaining
    · rw [stepByte_body_partial cfg d b hs hlt] at hstep
      cases hstep
      unfold DInv
      rw [hs]
      exact hlt
    · rw [stepByte_body_last cfg d b hs hlt] at hstep
      split at hstep
      · cases hstep; exact DInv_init
      · cases hstep

theorem feed_keeps_inv (cfg : DecodeCfg) : ∀ (bs : Bytes) (d : Decoder), DInv d → (feed cfg d bs).err = none → DInv (feed cfg d bs).dec
  | [], d, h, _ => by simpa [feed] using h
  | b :: rest, d, h, herr => by
    rcases hstep : stepByte cfg d b with ⟨d', ps, e⟩
    cases e with
    | some e => simp [feed, hstep] at herr
    | none =>
      have hd' : DInv d' := stepByte_keeps_inv cfg d d' b ps h hstep
      have : (feed cfg d' rest).err = none := by simpa [feed, hstep] using herr
      have ih := feed_keeps_inv cfg rest d' hd' this
      simpa [feed, hstep] using ih

end GV
