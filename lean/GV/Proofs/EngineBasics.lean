/- Proofs/EngineBasics.lean — what the engine proofs share below the handlers: a property of both branches of a conditional,
   an invariant of a fold, fields that rewriting an operation in place leaves alone, what completing an operation does to
   the whole engine (`Engine.erased`: the engine without the operation and its packet-id bindings), queueing an operation,
   the answer to an inbound PUBLISH or PUBREL, the insertion sort of the queues. -/
import GV.Proofs.OpsMap
namespace GV

instance : LawfulBEq PState where
  eq_of_beq := by intro a b h; cases a <;> cases b <;> first | rfl | cases h
  rfl := by intro a; cases a <;> rfl

instance : LawfulBEq OfflinePolicy where
  eq_of_beq := by intro a b h; cases a <;> cases b <;> first | rfl | cases h
  rfl := by intro a; cases a <;> rfl

instance : LawfulBEq RejoinPolicy where
  eq_of_beq := by intro a b h; cases a <;> cases b <;> first | rfl | cases h
  rfl := by intro a; cases a <;> rfl

/-- where the goal holds the unfolded body of a handler, apply this instead of `split`, which is far slower to check there -/
theorem ite_elim {α} (P : α → Prop) {c : Prop} [Decidable c] {x y : α} (hx : c → P x) (hy : ¬c → P y) : P (if c then x else y) := by
  split
  · exact hx ‹_›
  · exact hy ‹_›

theorem ite_keeps {α} (P : α → Prop) {c : Prop} [Decidable c] {x y : α} (hx : P x) (hy : P y) : P (if c then x else y) :=
  ite_elim P (fun _ => hx) (fun _ => hy)

theorem fst_ite {α β} (P : α → Prop) {c : Prop} [Decidable c] {x y : α × β} (hx : c → P x.1) (hy : ¬c → P y.1) :
    P (if c then x else y).1 :=
  ite_elim (fun z : α × β => P z.1) hx hy

/-- a fold keeps an invariant that speaks of the elements still to come -/
theorem foldl_drop {α β} (f : β → α → β) (Q : List α → β → Prop) (l : List α)
    (hf : ∀ T b, ∀ a ∈ l, Q (a :: T) b → Q T (f b a)) : ∀ (T : List α) (b : β), (∀ a ∈ T, a ∈ l) → Q T b → Q [] (T.foldl f b)
  | [], _, _, h => h
  | a :: T, b, hT, h => foldl_drop f Q l hf T (f b a) (fun x hx => hT x (.tail _ hx)) (hf T b a (hT a (.head _)) h)

theorem foldl_comm {α β} (f : β → α → β) (g : β → β) (h : ∀ b a, f (g b) a = g (f b a)) :
    ∀ (l : List α) (b : β), l.foldl f (g b) = g (l.foldl f b)
  | [], _ => rfl
  | a :: l, b => (congrArg (l.foldl f) (h b a)).trans (foldl_comm f g h l (f b a))

theorem foldl_inv {α β} (Q : β → Prop) (f : β → α → β) (l : List α) (hf : ∀ b, ∀ a ∈ l, Q b → Q (f b a)) (b : β) (h : Q b) :
    Q (l.foldl f b) :=
  foldl_drop f (fun _ => Q) l (fun _ b a ha => hf b a ha) l b (fun _ h => h) h

theorem foldl_preserves {α} (f : Engine → α → Engine) (P : Engine → Prop) (h : ∀ e a, P e → P (f e a)) (l : List α) (e : Engine) :
    P e → P (l.foldl f e) :=
  foldl_inv P f l (fun e a _ => h e a) e

theorem setOp_fields (e : Engine) (o : Op) :
    (e.setOp o).inQos2 = e.inQos2 ∧ (e.setOp o).allocated = e.allocated ∧ (e.setOp o).highQ = e.highQ ∧
    (e.setOp o).userQ = e.userQ ∧ (e.setOp o).resubQ = e.resubQ ∧ (e.setOp o).pendingPub = e.pendingPub ∧
    (e.setOp o).pendingNonPub = e.pendingNonPub ∧ (e.setOp o).state = e.state ∧ (e.setOp o).outComps = e.outComps := by
  simp [Engine.setOp]

theorem unbind_inQos2 (e : Engine) (id : Nat) : (e.unbind id).inQos2 = e.inQos2 := by
  unfold Engine.unbind
  split
  · split
    · simp [Engine.setOp]
    · rfl
  · rfl

theorem clearQos2_inQos2 (e : Engine) (id : Nat) : (e.clearQos2 id).inQos2 = e.inQos2 := by
  unfold Engine.clearQos2
  split <;> simp [Engine.setOp]

/-! ### what completing an operation does to the engine -/

/-- parts of the engine that completing an operation never touches: the ones the layers ask about -/
structure SameClock (a b : Engine) : Prop where
  timeouts : a.timeouts = b.timeouts
  now : a.now = b.now
  current : a.current = b.current
  highQ : a.highQ = b.highQ
  userQ : a.userQ = b.userQ
  resubQ : a.resubQ = b.resubQ
  cfg : a.cfg = b.cfg
  nextOpId : a.nextOpId = b.nextOpId
  pendingWrite : a.pendingWrite = b.pendingWrite
  outBytes : a.outBytes = b.outBytes
  outEvents : a.outEvents = b.outEvents

theorem SameClock.refl (a : Engine) : SameClock a a := ⟨rfl, rfl, rfl, rfl, rfl, rfl, rfl, rfl, rfl, rfl, rfl⟩

theorem SameClock.trans {a b c : Engine} (h1 : SameClock a b) (h2 : SameClock b c) : SameClock a c :=
  ⟨h1.timeouts.trans h2.timeouts, h1.now.trans h2.now, h1.current.trans h2.current, h1.highQ.trans h2.highQ,
   h1.userQ.trans h2.userQ, h1.resubQ.trans h2.resubQ, h1.cfg.trans h2.cfg, h1.nextOpId.trans h2.nextOpId,
   h1.pendingWrite.trans h2.pendingWrite, h1.outBytes.trans h2.outBytes, h1.outEvents.trans h2.outEvents⟩

def releaseFrom (m : List (Nat × Nat)) (pid : Option Nat) : List (Nat × Nat) :=
  match pid with
  | some p => mapErase m p
  | none => m

/-- the engine without operation `id = o`: the operation and its packet-id bindings are gone -/
def Engine.erased (e : Engine) (id : Nat) (o : Op) : Engine :=
  { e with ops := mapErase e.ops id, allocated := releaseFrom e.allocated o.packetId,
           pendingPub := releaseFrom e.pendingPub o.packetId, pendingNonPub := releaseFrom e.pendingNonPub o.packetId }

theorem releaseIds_erased (e : Engine) (id : Nat) (o : Op) :
    ({ e with ops := mapErase e.ops id } : Engine).releaseIds o = e.erased id o := by
  unfold Engine.releaseIds Engine.erased
  cases o.packetId <;> rfl

theorem releaseIds_ops (e : Engine) (o : Op) : 
    (e.releaseIds o).ops = e.ops ∧ (e.releaseIds o).outComps = e.outComps ∧ (e.releaseIds o).state = e.state := by
  unfold Engine.releaseIds; split <;> simp

/-- **`apply_ackable_completion`, case by case**: the slow-start `panic!`, in a connected draining engine whose count is below
    the operation's mark; otherwise only the count changes, and there it is lowered by the mark -/
theorem applyAckable_cases (e : Engine) (o : Op) :
    (e.applyAckable o = none ∧ e.cfg.drainOneAtATime = true ∧ (e.state == .connected) = true ∧ e.slowStartCount < o.slowStart) ∨
    ∃ sc, e.applyAckable o = some { e with slowStartCount := sc } ∧
      (e.cfg.drainOneAtATime = true → (e.state == .connected) = true → sc = e.slowStartCount - o.slowStart) := by
  unfold Engine.applyAckable
  -- rewriting these conditionals is much cheaper to check than `split`
  by_cases hd : e.cfg.drainOneAtATime = true
  · by_cases hc : (e.state == .connected) = true
    · rw [if_neg (by simp [hd]), if_neg (by simp [bne, hc])]
      by_cases hz : o.slowStart = 0
      · rw [if_pos hz]; exact .inr ⟨e.slowStartCount, rfl, fun _ _ => by omega⟩
      · rw [if_neg hz]
        by_cases hge : e.slowStartCount ≥ o.slowStart
        · rw [if_pos hge]; exact .inr ⟨_, rfl, fun _ _ => rfl⟩
        · rw [if_neg hge]; exact .inl ⟨rfl, hd, hc, by omega⟩
    · rw [if_neg (by simp [hd]), if_pos (by simp [bne, hc])]
      exact .inr ⟨e.slowStartCount, rfl, fun _ h => absurd h hc⟩
  · rw [if_pos (by simp [hd])]
    exact .inr ⟨e.slowStartCount, rfl, fun h => absurd h hd⟩

theorem applyAckable_eq (e : Engine) (o : Op)
    (hge : e.cfg.drainOneAtATime = true → (e.state == .connected) = true → e.slowStartCount ≥ o.slowStart) :
    ∃ sc, e.applyAckable o = some { e with slowStartCount := sc } ∧
      (e.cfg.drainOneAtATime = true → (e.state == .connected) = true → sc = e.slowStartCount - o.slowStart) := by
  rcases applyAckable_cases e o with ⟨_, hd, hc, hlt⟩ | h
  · exact absurd (hge hd hc) (Nat.not_le.mpr hlt)
  · exact h

/-- **`apply_disconnect_completion`, case by case**: a completing DISCONNECT reports the user's disconnect and changes at
    most the state, to Halted and only from PendingDisconnect -/
theorem applyDisconnectCompletion_cases (e : Engine) (o : Op) :
    (isDisconnect o.packet = false ∧ e.applyDisconnectCompletion o = (e, .ok)) ∨
    (isDisconnect o.packet = true ∧ ∃ st, e.applyDisconnectCompletion o = ({ e with state := st }, .err "UserInitiatedDisconnect") ∧
      (st = e.state ∨ (e.state = .pendingDisconnect ∧ st = .halted))) := by
  unfold Engine.applyDisconnectCompletion
  by_cases hd : isDisconnect o.packet = true
  · rw [if_pos hd]
    by_cases hpd : (e.state == .pendingDisconnect) = true
    · rw [if_pos hpd]; exact .inr ⟨hd, .halted, rfl, .inr ⟨eq_of_beq hpd, rfl⟩⟩
    · rw [if_neg hpd]; exact .inr ⟨hd, e.state, rfl, .inl rfl⟩
  · rw [if_neg hd]; exact .inl ⟨by simpa using hd, rfl⟩

theorem applyPingExtension_shape (e : Engine) (o : Op) :
    ∃ np, e.applyPingExtension o = { e with nextPing := np } ∧ (e.nextPing.isSome = true → np.isSome = true) := by
  unfold Engine.applyPingExtension
  simp only []
  split
  · split
    · split
      · exact ⟨_, rfl, fun _ => rfl⟩
      · exact ⟨e.nextPing, rfl, fun h => h⟩
    · exact ⟨e.nextPing, rfl, fun h => h⟩
  · exact ⟨e.nextPing, rfl, fun h => h⟩

theorem applyPingExtension_only_nextPing (e : Engine) (o : Op) : ∃ np, e.applyPingExtension o = { e with nextPing := np } :=
  let ⟨np, h, _⟩ := applyPingExtension_shape e o
  ⟨np, h⟩

/-- **`complete_operation_as_failure` of a tracked operation**: the operation and its bindings go; beyond that only the
    slow-start count, the state (a DISCONNECT may halt the engine) and the completions handed out change.  Unless the count
    is below the operation's mark (the `panic!`), the count is lowered by the mark, the owner of anything but a
    DISCONNECT is handed the error, and the call returns `ok`, or the user's disconnect for a DISCONNECT. -/
theorem completeFailure_full (e : Engine) (id : Nat) (k : String) {o : Op} (ho : e.op? id = some o) :
    ∃ sc st oc, (e.completeFailure id k).1 = { e.erased id o with slowStartCount := sc, state := st, outComps := oc } ∧
      (st = e.state ∨ (e.state = .pendingDisconnect ∧ st = .halted)) ∧
      ((e.cfg.drainOneAtATime = true → (e.state == .connected) = true → o.slowStart ≤ e.slowStartCount) →
        (e.cfg.drainOneAtATime = true → (e.state == .connected) = true → sc = e.slowStartCount - o.slowStart) ∧
        oc = e.outComps ++ (if isDisconnect o.packet then [] else (o.user.map fun u => (u.1, Completion.err k)).toList) ∧
        (e.completeFailure id k).2 = if isDisconnect o.packet then .err "UserInitiatedDisconnect" else .ok) := by
  unfold Engine.completeFailure
  simp only [ho]
  rw [releaseIds_erased]
  rcases applyAckable_cases (e.erased id o) o with ⟨hA, hd, hc, hlt⟩ | ⟨sc, hA, hsc⟩ <;> rw [hA]
  · exact ⟨e.slowStartCount, e.state, e.outComps, rfl, .inl rfl, fun hge => absurd (hge hd hc) (Nat.not_le.mpr hlt)⟩
  · simp only []
    rcases applyDisconnectCompletion_cases { e.erased id o with slowStartCount := sc } o with ⟨hdis, hD⟩ | ⟨hdis, st, hD, hst⟩ <;>
      rw [hD, hdis]
    · simp only [Res.isOk, Bool.not_true, Bool.false_eq_true, ↓reduceIte]
      cases o.user with
      | none => exact ⟨sc, e.state, e.outComps, rfl, .inl rfl, fun _ => ⟨hsc, (List.append_nil _).symm, rfl⟩⟩
      | some u => exact ⟨sc, e.state, e.outComps ++ [(u.1, .err k)], rfl, .inl rfl, fun _ => ⟨hsc, rfl, rfl⟩⟩
    · exact ⟨sc, st, e.outComps, rfl, hst, fun _ => ⟨hsc, (List.append_nil _).symm, rfl⟩⟩

theorem completeFailure_shape (e : Engine) (id : Nat) (k : String) {o : Op} (ho : e.op? id = some o) :
    ∃ sc st oc, (e.completeFailure id k).1 = { e.erased id o with slowStartCount := sc, state := st, outComps := oc } ∧
      (st = e.state ∨ (e.state = .pendingDisconnect ∧ st = .halted)) :=
  let ⟨sc, st, oc, h, hst, _⟩ := completeFailure_full e id k ho
  ⟨sc, st, oc, h, hst⟩

/-- **`complete_operation_as_success` of a tracked operation**: as for a failure, a scheduled next ping may move, and the
    owner is handed the result that fits the operation, if there is one -/
theorem completeSuccess_full (e : Engine) (id : Nat) (c : Option Completion) {o : Op} (ho : e.op? id = some o) :
    ∃ sc st oc np, (e.completeSuccess id c).1 =
        { e.erased id o with slowStartCount := sc, state := st, outComps := oc, nextPing := np } ∧
      (st = e.state ∨ (e.state = .pendingDisconnect ∧ st = .halted)) ∧ (e.nextPing.isSome = true → np.isSome = true) ∧
      ((e.cfg.drainOneAtATime = true → (e.state == .connected) = true → o.slowStart ≤ e.slowStartCount) →
        (e.cfg.drainOneAtATime = true → (e.state == .connected) = true → sc = e.slowStartCount - o.slowStart) ∧
        oc = e.outComps ++ if isDisconnect o.packet then []
          else (o.user.bind fun u => (resultFor o.packet c).map fun res => (u.1, res)).toList) := by
  unfold Engine.completeSuccess
  simp only [ho]
  rw [releaseIds_erased]
  rcases applyAckable_cases (e.erased id o) o with ⟨hA, hd, hc, hlt⟩ | ⟨sc, hA, hsc⟩ <;> rw [hA]
  · exact ⟨e.slowStartCount, e.state, e.outComps, e.nextPing, rfl, .inl rfl, fun h => h,
      fun hge => absurd (hge hd hc) (Nat.not_le.mpr hlt)⟩
  · simp only []
    obtain ⟨np, hP, hnp⟩ := applyPingExtension_shape { e.erased id o with slowStartCount := sc } o
    rw [hP]
    rcases applyDisconnectCompletion_cases { e.erased id o with slowStartCount := sc, nextPing := np } o with
      ⟨hdis, hD⟩ | ⟨hdis, st, hD, hst⟩ <;> rw [hD, hdis]
    · simp only [Res.isOk, Bool.not_true, Bool.false_eq_true, ↓reduceIte]
      cases o.user with
      | none => exact ⟨sc, e.state, e.outComps, np, rfl, .inl rfl, hnp, fun _ => ⟨hsc, (List.append_nil _).symm⟩⟩
      | some u =>
        cases resultFor o.packet c with
        | some res => exact ⟨sc, e.state, e.outComps ++ [(u.1, res)], np, rfl, .inl rfl, hnp, fun _ => ⟨hsc, rfl⟩⟩
        | none =>
          refine ⟨sc, e.state, e.outComps, np, ?_, .inl rfl, hnp, fun _ => ⟨hsc, (List.append_nil _).symm⟩⟩
          simp only []
          split <;> rfl
    · exact ⟨sc, st, e.outComps, np, rfl, hst, hnp, fun _ => ⟨hsc, (List.append_nil _).symm⟩⟩

theorem completeSuccess_shape (e : Engine) (id : Nat) (c : Option Completion) {o : Op} (ho : e.op? id = some o) :
    ∃ sc st oc np, (e.completeSuccess id c).1 =
        { e.erased id o with slowStartCount := sc, state := st, outComps := oc, nextPing := np } ∧
      (st = e.state ∨ (e.state = .pendingDisconnect ∧ st = .halted)) ∧ (e.nextPing.isSome = true → np.isSome = true) :=
  let ⟨sc, st, oc, np, h, hst, hnp, _⟩ := completeSuccess_full e id c ho
  ⟨sc, st, oc, np, h, hst, hnp⟩

theorem completeFailure_none {e : Engine} {id : Nat} (k : String) (ho : e.op? id = none) : e.completeFailure id k = (e, .ok) := by
  simp only [Engine.completeFailure, ho]

theorem completeSuccess_none {e : Engine} {id : Nat} (c : Option Completion) (ho : e.op? id = none) :
    e.completeSuccess id c = (e, .err "InternalStateError") := by
  simp only [Engine.completeSuccess, ho]

theorem completeFailure_same (e : Engine) (id : Nat) (k : String) : SameClock (e.completeFailure id k).1 e := by
  cases ho : e.op? id with
  | none => rw [completeFailure_none k ho]; exact SameClock.refl _
  | some o =>
    obtain ⟨sc, st, oc, h, _⟩ := completeFailure_shape e id k ho
    rw [h]; exact ⟨rfl, rfl, rfl, rfl, rfl, rfl, rfl, rfl, rfl, rfl, rfl⟩

/-! ### queueing an operation -/

/-- what `enqueue_operation` does with a tracked operation -/
def Engine.queued (e : Engine) (id : Nat) (q : QueueKind) (front : Bool) : Engine :=
  match q with
  | .user => { e with userQ := if front then id :: e.userQ else e.userQ ++ [id] }
  | .high => { e with highQ := if front then id :: e.highQ else e.highQ ++ [id] }

theorem enqueue_eq (e : Engine) (id : Nat) (q : QueueKind) (front : Bool) :
    e.enqueue id q front = if (e.op? id).isNone then none else some (e.queued id q front) := by
  unfold Engine.enqueue Engine.queued
  cases q <;> rfl

theorem enqueue_tracked {e : Engine} {id : Nat} {o : Op} (ho : e.ops.lookup id = some o) (q : QueueKind) (front : Bool) :
    e.enqueue id q front = some (e.queued id q front) := by
  rw [enqueue_eq, show e.op? id = some o from ho]; rfl

theorem enqueue_some {e e2 : Engine} {id : Nat} {q : QueueKind} {front : Bool} (h : e.enqueue id q front = some e2) :
    e2 = e.queued id q front := by
  rw [enqueue_eq] at h
  by_cases hn : (e.op? id).isNone = true
  · rw [if_pos hn] at h; cases h
  · rw [if_neg hn] at h; exact (Option.some.inj h).symm

theorem enqueue_created (e : Engine) (p : Packet) (user : Option (Nat × Option Nat)) (q : QueueKind) (front : Bool) :
    (e.createOp p user).1.enqueue (e.createOp p user).2 q front = some ((e.createOp p user).1.queued e.nextOpId q front) :=
  enqueue_tracked (lookup_mapInsert_self e.ops e.nextOpId _) q front

/-! ### the answer to an inbound PUBLISH or PUBREL -/

/-- the answer to an inbound packet is a new operation at the back of the high-priority queue -/
def Engine.withAnswer (e : Engine) (a : Packet) : Engine :=
  { (e.createOp a none).1 with highQ := e.highQ ++ [e.nextOpId] }

/-- the common end of `handle_publish` and `handle_pubrel`: the operation just created is there to be queued -/
theorem answered_eq (e : Engine) (a : Packet) :
    (match (e.createOp a none).1.enqueue (e.createOp a none).2 .high false with
     | some e3 => (e3, Res.ok)
     | none => ((e.createOp a none).1, Res.panic "enqueue_nonexistent_operation")) = (e.withAnswer a, .ok) := by
  rw [enqueue_created]
  rfl

theorem handlePubrel_eq (e : Engine) (a : Ack) :
    e.handlePubrel a = if stateBlocksAcks e.state then (e, .err "ProtocolError")
      else (({ e with inQos2 := e.inQos2.filter (· != a.packetId) } : Engine).withAnswer (.pubcomp { packetId := a.packetId }), .ok) := by
  unfold Engine.handlePubrel
  by_cases hb : stateBlocksAcks e.state = true
  · rw [if_pos hb, if_pos hb]
  · rw [if_neg hb, if_neg hb]; exact answered_eq _ _

theorem handlePublish_eq (e : Engine) (p : Publish) :
    e.handlePublish p =
      if stateBlocksAcks e.state then (e, .err "ProtocolError")
      else if p.qos = 0 then ({ e with outEvents := e.outEvents ++ [Packet.publish p] }, .ok)
      else if p.qos = 1 then
        (({ e with outEvents := e.outEvents ++ [Packet.publish p] } : Engine).withAnswer (.puback { packetId := p.packetId }), .ok)
      else ((if e.inQos2.contains p.packetId then e
          else { e with outEvents := e.outEvents ++ [Packet.publish p], inQos2 := insertSorted p.packetId e.inQos2 }).withAnswer
        (.pubrec { packetId := p.packetId }), .ok) := by
  unfold Engine.handlePublish
  by_cases hb : stateBlocksAcks e.state = true
  · rw [if_pos hb, if_pos hb]
  rw [if_neg hb, if_neg hb]
  by_cases h0 : p.qos = 0
  · rw [if_pos h0, if_pos h0]
  rw [if_neg h0, if_neg h0]
  by_cases h1 : p.qos = 1
  · rw [if_pos h1, if_pos h1]; exact answered_eq _ _
  · rw [if_neg h1, if_neg h1]; exact answered_eq _ _

/-! ### insertion sort used for `sort_operation_deque` -/

def sortedNat : List Nat → Bool
  | [] => true
  | [_] => true
  | a :: b :: r => a ≤ b && sortedNat (b :: r)

theorem insertSorted_sorted (x : Nat) (l : List Nat) (h : sortedNat l = true) : sortedNat (insertSorted x l) = true := by
  induction l with
  | nil => rfl
  | cons y r ih =>
    simp only [insertSorted]
    split
    · rename_i hxy; simp [sortedNat, hxy, h]
    · rename_i hxy
      cases r with
      | nil => simp [insertSorted, sortedNat]; omega
      | cons z r' =>
        simp only [sortedNat, Bool.and_eq_true, decide_eq_true_eq] at h
        have ih' := ih h.2
        simp only [insertSorted] at ih' ⊢
        split
        · rename_i hxz
          simp only [hxz, ↓reduceIte] at ih'
          simp [sortedNat, hxz, h.2]; omega
        · rename_i hxz
          simp only [hxz, ↓reduceIte] at ih'
          simp only [sortedNat, Bool.and_eq_true, decide_eq_true_eq]
          exact ⟨h.1, ih'⟩

theorem sortIds_sorted (l : List Nat) : sortedNat (sortIds l) = true := by
  induction l with
  | nil => rfl
  | cons x r ih => exact insertSorted_sorted x _ ih

theorem insertSorted_perm (x : Nat) (l : List Nat) : (insertSorted x l).Perm (x :: l) := by
  induction l with
  | nil => exact List.Perm.refl _
  | cons y r ih =>
    simp only [insertSorted]
    split
    · exact List.Perm.refl _
    · exact (List.Perm.cons y ih).trans (List.Perm.swap x y r)

theorem sortIds_perm (l : List Nat) : (sortIds l).Perm l := by
  induction l with
  | nil => exact List.Perm.refl _
  | cons x r ih => exact (insertSorted_perm x _).trans (List.Perm.cons x ih)

end GV
