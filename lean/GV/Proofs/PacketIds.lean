/- Proofs/PacketIds.lean — the search loop of `acquire_free_packet_id` (used by Props/C06 and by the engine invariant) -/
import GV.Proofs.EngineBasics
namespace GV

def inRange (n : Nat) : Prop := 1 ≤ n ∧ n ≤ 65535

theorem next_in_range (next : Nat) (h : inRange next) : inRange (if next = 65535 then 1 else next + 1) := by
  unfold inRange at h ⊢
  by_cases h65 : next = 65535
  · rw [if_pos h65]; exact ⟨Nat.le_refl 1, by decide⟩
  · rw [if_neg h65]; exact ⟨Nat.le_add_left 1 next, Nat.lt_of_le_of_ne h.2 h65⟩

/-- **The search loop is sound for every cursor position and any number of wrap-arounds**: an id it returns
    is non-zero, at most 65535 and not reserved; the cursor it leaves behind is again a legal id. -/
theorem acquireLoop_sound (allocated : List (Nat × Nat)) (start : Nat) :
    ∀ (fuel check next : Nat), inRange check → inRange next →
      inRange (acquireLoop allocated start fuel check next).2 ∧
      ∀ pid, (acquireLoop allocated start fuel check next).1 = some pid → inRange pid ∧ allocated.lookup pid = none := by
  intro fuel
  induction fuel with
  | zero => intro check next _ hn; exact ⟨hn, fun pid hp => nomatch hp⟩
  | succ f ih =>
    intro check next hc hn
    have hn' := next_in_range next hn
    simp only [acquireLoop]
    generalize (if next = 65535 then 1 else next + 1) = nx at hn'
    by_cases hfree : (allocated.lookup check).isNone = true
    · simp only [hfree, ↓reduceIte]
      refine ⟨hn', ?_⟩
      intro pid hp
      simp only [Option.some.injEq] at hp; subst hp
      exact ⟨hc, by simpa using hfree⟩
    · simp only [hfree, Bool.false_eq_true, ↓reduceIte]
      by_cases hst : nx = start
      · simp only [hst, ↓reduceIte]
        exact ⟨by rw [← hst]; exact hn', by intro pid hp; simp at hp⟩
      · simp only [hst, ↓reduceIte]
        exact ih _ _ hn' hn'

end GV
