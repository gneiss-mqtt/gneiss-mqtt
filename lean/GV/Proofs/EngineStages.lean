/- Proofs/EngineStages.lean — the loops of the engine model as induction principles, and its long handlers cut into stages.

   Every layer of the engine proofs has to pass through the same loops and the same handlers.  What the layers share is stated
   here once: the loops over lists first, then the handlers from the user's events to the service call, each after the
   functions it calls, the step function last.  For a loop: a predicate kept by the step is kept by the loop (`_keeps` for
   a predicate on the engine, `_res` with one on the result beside it, `_ind` for one on both together).  For a handler:
   its stages are functions of their own, an equation (`_eq`) or a case lemma (`_cases`) says that the model's function is
   their composition, and a `_keeps` lemma carries a predicate through it.  Lean checks such a composition cheaply only after both sides are unfolded; the
   layers rewrite with these lemmas instead of unfolding a handler themselves. -/
import GV.Proofs.EngineBasics
import GV.Model.EngineWF
namespace GV

def vals (m : List (Nat × Nat)) : List Nat := m.map (·.2)

/-! ### loops -/

/-- `failAll`, engine and result: `Q T` is what holds with the ids `T` still to come; likewise for the two loops below -/
theorem failAll_ind (Q : List Nat → Engine × Res → Prop) (k : String) (ids : List Nat)
    (hQ : ∀ T x r, ∀ id ∈ ids, Q (id :: T) (x, r) → Q T ((x.completeFailure id k).1, r.fold (x.completeFailure id k).2))
    (e : Engine) (h : Q ids (e, .ok)) : Q [] (e.failAll ids k) := by
  unfold Engine.failAll
  exact foldl_drop (fun acc id => match acc.1.completeFailure id k with | (e', r) => (e', acc.2.fold r)) Q ids
    (fun T acc => hQ T acc.1 acc.2) ids (e, .ok) (fun _ h => h) h

theorem failAllIgnoringDisconnect_ind (Q : List Nat → Engine × Res → Prop) (k : String) (ids : List Nat)
    (hQ : ∀ T x r, ∀ id ∈ ids, Q (id :: T) (x, r) →
      Q T ((x.completeFailure id k).1, r.fold (ignoreUserDisconnect (x.completeFailure id k).2)))
    (e : Engine) (h : Q ids (e, .ok)) : Q [] (e.failAllIgnoringDisconnect ids k) := by
  unfold Engine.failAllIgnoringDisconnect
  exact foldl_drop (fun acc id => match acc.1.completeFailure id k with | (e', r) => (e', acc.2.fold (ignoreUserDisconnect r))) Q ids
    (fun T acc => hQ T acc.1 acc.2) ids (e, .ok) (fun _ h => h) h

theorem succeedAll_ind (Q : List Nat → Engine × Res → Prop) (ids : List Nat)
    (hQ : ∀ T x r, ∀ id ∈ ids, Q (id :: T) (x, r) → Q T ((x.completeSuccess id none).1, r.fold (x.completeSuccess id none).2))
    (e : Engine) (h : Q ids (e, .ok)) : Q [] (e.succeedAll ids) := by
  unfold Engine.succeedAll
  exact foldl_drop (fun acc id => match acc.1.completeSuccess id none with | (e', r) => (e', acc.2.fold r)) Q ids
    (fun T acc => hQ T acc.1 acc.2) ids (e, .ok) (fun _ h => h) h

theorem failAll_keeps (P : Engine → Prop) (k : String) (ids : List Nat)
    (hP : ∀ e, ∀ id ∈ ids, P e → P (e.completeFailure id k).1) (e : Engine) (h : P e) : P (e.failAll ids k).1 :=
  failAll_ind (fun _ y => P y.1) k ids (fun _ x _ => hP x) e h

theorem failAllIgnoringDisconnect_keeps (P : Engine → Prop) (k : String) (ids : List Nat)
    (hP : ∀ e, ∀ id ∈ ids, P e → P (e.completeFailure id k).1) (e : Engine) (h : P e) :
    P (e.failAllIgnoringDisconnect ids k).1 :=
  failAllIgnoringDisconnect_ind (fun _ y => P y.1) k ids (fun _ x _ => hP x) e h

theorem succeedAll_keeps (P : Engine → Prop) (ids : List Nat)
    (hP : ∀ e, ∀ id ∈ ids, P e → P (e.completeSuccess id none).1) (e : Engine) (h : P e) : P (e.succeedAll ids).1 :=
  succeedAll_ind (fun _ y => P y.1) ids (fun _ x _ => hP x) e h

theorem failExceeding_res (P : Engine → Prop) (R : Res → Prop) (hok : R .ok) (hfold : ∀ a b, R a → R b → R (a.fold b))
    (hP : ∀ e id k, P e → P (e.completeFailure id k).1 ∧ R (e.completeFailure id k).2) (e : Engine) (h : P e) :
    P e.failExceeding.1 ∧ R e.failExceeding.2 := by
  unfold Engine.failExceeding
  split
  · exact ⟨h, hok⟩
  · have hl := fun l x hx => failAll_ind (fun _ y => P y.1 ∧ R y.2) "MaxInterruptedRetriesExceeded"
      l (fun _ x _ id _ h => ⟨(hP x id _ h.1).1, hfold _ _ h.2 (hP x id _ h.1).2⟩) x ⟨hx, hok⟩
    exact ⟨(hl _ _ (hl _ e h).1).1, hfold _ _ (hfold _ _ hok (hl _ e h).2) (hl _ _ (hl _ e h).1).2⟩

theorem failExceeding_keeps (P : Engine → Prop) (hP : ∀ e id k, P e → P (e.completeFailure id k).1) (e : Engine) (h : P e) :
    P e.failExceeding.1 :=
  (failExceeding_res P (fun _ => True) trivial (fun _ _ _ _ => trivial) (fun e id k h => ⟨hP e id k h, trivial⟩) e h).1

theorem failAll_same (k : String) (ids : List Nat) (e : Engine) : SameClock (e.failAll ids k).1 e :=
  failAll_keeps (SameClock · e) k ids (fun x id _ hx => (completeFailure_same x id k).trans hx) e (SameClock.refl e)

theorem failAllIgnoringDisconnect_same (k : String) (ids : List Nat) (e : Engine) : SameClock (e.failAllIgnoringDisconnect ids k).1 e :=
  failAllIgnoringDisconnect_keeps (SameClock · e) k ids (fun x id _ hx => (completeFailure_same x id k).trans hx) e (SameClock.refl e)

theorem failExceeding_same (e : Engine) : SameClock e.failExceeding.1 e :=
  failExceeding_keeps (SameClock · e) (fun x id k hx => (completeFailure_same x id k).trans hx) e (SameClock.refl e)

/-- the ack-timeout pass: a due record is dropped and its operation failed, again and again; what is returned is the fold of
    the failures' results -/
theorem processAckTimeouts_res (P : Engine → Prop) (R : Res → Prop) (hok : R .ok) (hfold : ∀ a b, R a → R b → R (a.fold b))
    (hP : ∀ e id d, e.nextDueTimeout = some (id, d) → d ≤ e.now → P e →
      P (({ e with timeouts := e.timeouts.erase (id, d) } : Engine).completeFailure id "AckTimeout").1 ∧
      R (({ e with timeouts := e.timeouts.erase (id, d) } : Engine).completeFailure id "AckTimeout").2) :
    ∀ (fuel : Nat) (e : Engine), P e → P (Engine.processAckTimeouts fuel e).1 ∧ R (Engine.processAckTimeouts fuel e).2 := by
  intro fuel
  induction fuel with
  | zero => intro e h; exact ⟨h, hok⟩
  | succ f ih =>
    intro e h
    unfold Engine.processAckTimeouts
    cases hn : e.nextDueTimeout with
    | none => exact ⟨h, hok⟩
    | some x =>
      obtain ⟨id, d⟩ := x
      by_cases hd : d ≤ e.now
      · simp only [hd, ↓reduceIte]
        have h1 := hP e id d hn hd h
        exact ⟨(ih _ h1.1).1, hfold _ _ h1.2 (ih _ h1.1).2⟩
      · simp only [hd, ↓reduceIte]
        exact ⟨h, hok⟩

theorem processAckTimeouts_keeps (P : Engine → Prop)
    (hP : ∀ e id d, e.nextDueTimeout = some (id, d) → d ≤ e.now → P e →
      P (({ e with timeouts := e.timeouts.erase (id, d) } : Engine).completeFailure id "AckTimeout").1)
    (fuel : Nat) (e : Engine) (h : P e) : P (Engine.processAckTimeouts fuel e).1 :=
  (processAckTimeouts_res P (fun _ => True) trivial (fun _ _ _ _ => trivial) (fun e id d hn hd h => ⟨hP e id d hn hd h, trivial⟩) fuel e h).1

/-- the loop over the packets of one read, engine and result: `P` is what the engine keeps from packet to packet as long as
    the results are fine -/
theorem handlePackets_ind (P : Engine → Prop) (Q : Engine × Res → Prop) (h0 : ∀ e, P e → Q (e, .ok))
    (hP : ∀ e p, P e → Q (e.handleOnePacket p) ∧ ((e.handleOnePacket p).2.isOk = true → P (e.handleOnePacket p).1)) :
    ∀ (ps : List Packet) (e : Engine), P e → Q (e.handlePackets ps) := by
  intro ps
  induction ps with
  | nil => exact h0
  | cons p rest ih =>
    intro e h
    unfold Engine.handlePackets
    have h1 := hP e p h
    generalize e.handleOnePacket p = x at h1
    by_cases hr : x.2.isOk = true
    · simp only [hr, Bool.not_true, Bool.false_eq_true, ↓reduceIte]; exact ih x.1 (h1.2 hr)
    · simp only [hr, Bool.not_false, ↓reduceIte]; exact h1.1

theorem handlePackets_keeps (P : Engine → Prop) (hP : ∀ e p, P e → P (e.handleOnePacket p).1) :
    ∀ (ps : List Packet) (e : Engine), P e → P (e.handlePackets ps).1 :=
  handlePackets_ind P (fun x => P x.1) (fun _ h => h) (fun e p h => ⟨hP e p h, fun _ => hP e p h⟩)

/-! ### the split by the offline-queue policy -/

theorem partitionByPolicy_mem (e : Engine) (q : List Nat) (id : Nat) :
    (id ∈ (e.partitionByPolicy q).1 ↔ id ∈ q ∧ ∃ o, e.op? id = some o ∧ passesPolicy o.packet e.cfg.policy = true) ∧
    (id ∈ (e.partitionByPolicy q).2 ↔ id ∈ q ∧ ∃ o, e.op? id = some o ∧ passesPolicy o.packet e.cfg.policy = false) := by
  have key : ∀ f : Nat × Packet → Bool,
      id ∈ ((q.filterMap (fun id => (e.op? id).map (fun o => (id, o.packet)))).filter f).map (·.1) ↔
        id ∈ q ∧ ∃ o, e.op? id = some o ∧ f (id, o.packet) = true := by
    intro f
    simp only [List.mem_map, List.mem_filter, List.mem_filterMap, Option.map_eq_some_iff]
    constructor
    · rintro ⟨x, ⟨⟨a, ha, o, ho, rfl⟩, hp⟩, rfl⟩
      exact ⟨ha, o, ho, hp⟩
    · rintro ⟨ha, o, ho, hp⟩
      exact ⟨(id, o.packet), ⟨⟨id, ha, o, ho, rfl⟩, hp⟩, rfl⟩
  unfold Engine.partitionByPolicy
  refine ⟨key _, (key _).trans ?_⟩
  simp only [Bool.not_eq_true']

theorem partitionByPolicy_cover {e : Engine} {q : List Nat} {id : Nat} {o : Op} (hid : id ∈ q) (ho : e.op? id = some o) :
    id ∈ (e.partitionByPolicy q).1 ∨ id ∈ (e.partitionByPolicy q).2 := by
  cases hp : passesPolicy o.packet e.cfg.policy
  · exact .inr ((partitionByPolicy_mem e q id).2.mpr ⟨hid, o, ho, hp⟩)
  · exact .inl ((partitionByPolicy_mem e q id).1.mpr ⟨hid, o, ho, hp⟩)

theorem partition_sublist (e : Engine) (q : List Nat) : (e.partitionByPolicy q).1.Sublist q ∧ (e.partitionByPolicy q).2.Sublist q := by
  unfold Engine.partitionByPolicy
  simp only []
  have key : ∀ (f : Nat × Packet → Bool), ((q.filterMap (fun id => (e.op? id).map (fun o => (id, o.packet)))).filter f |>.map (·.1)).Sublist q := by
    intro f
    induction q with
    | nil => exact List.Sublist.slnil
    | cons x xs ih =>
      simp only [List.filterMap_cons]
      cases hx : e.op? x with
      | none => simp only [Option.map_none]; exact ih.cons x
      | some o =>
        simp only [Option.map_some, List.filter_cons]
        split
        · simp only [List.map_cons]; exact ih.cons_cons x
        · exact ih.cons x
  exact ⟨key _, key _⟩

/-! ### operations rewritten in place -/

/-- `a` differs from `b` at most in the operation table and the packet-id bindings: the fields the layers ask about -/
structure SameBut (a b : Engine) : Prop where
  highQ : a.highQ = b.highQ
  current : a.current = b.current
  pendingPub : a.pendingPub = b.pendingPub
  pendingNonPub : a.pendingNonPub = b.pendingNonPub
  pendingWC : a.pendingWC = b.pendingWC
  userQ : a.userQ = b.userQ
  resubQ : a.resubQ = b.resubQ
  state : a.state = b.state

theorem SameBut.refl (a : Engine) : SameBut a a := ⟨rfl, rfl, rfl, rfl, rfl, rfl, rfl, rfl⟩

theorem SameBut.trans {a b c : Engine} (h : SameBut a b) (g : SameBut b c) : SameBut a c :=
  ⟨h.highQ.trans g.highQ, h.current.trans g.current, h.pendingPub.trans g.pendingPub, h.pendingNonPub.trans g.pendingNonPub,
    h.pendingWC.trans g.pendingWC, h.userQ.trans g.userQ, h.resubQ.trans g.resubQ, h.state.trans g.state⟩

theorem setOp_same (e : Engine) (o : Op) : SameBut (e.setOp o) e := ⟨rfl, rfl, rfl, rfl, rfl, rfl, rfl, rfl⟩

theorem setDupFlag_cases (e : Engine) (id : Nat) (v : Bool) : (e.op? id = none ∧ e.setDupFlag id v = e) ∨
    ∃ o, e.op? id = some o ∧ e.setDupFlag id v = e.setOp { o with packet := setDup o.packet v } := by
  unfold Engine.setDupFlag
  cases e.op? id with
  | none => exact .inl ⟨rfl, rfl⟩
  | some o => exact .inr ⟨o, rfl, rfl⟩

theorem clearQos2_cases (e : Engine) (id : Nat) : (e.op? id = none ∧ e.clearQos2 id = e) ∨
    ∃ o, e.op? id = some o ∧ e.clearQos2 id = e.setOp { o with pubrel := none } := by
  unfold Engine.clearQos2
  cases e.op? id with
  | none => exact .inl ⟨rfl, rfl⟩
  | some o => exact .inr ⟨o, rfl, rfl⟩

theorem unbind_cases (e : Engine) (id : Nat) : ((∀ o, e.op? id = some o → o.packetId = none) ∧ e.unbind id = e) ∨
    ∃ o pid, e.op? id = some o ∧ o.packetId = some pid ∧ e.unbind id =
      ({ e with allocated := mapErase e.allocated pid } : Engine).setOp { o with packetId := none, packet := withPacketId o.packet 0 } := by
  unfold Engine.unbind
  cases e.op? id with
  | none => exact .inl ⟨fun _ h => (by cases h), rfl⟩
  | some o =>
    cases hp : o.packetId with
    | none => exact .inl ⟨fun _ h => (by cases h; exact hp), by simp only [hp]⟩
    | some pid => exact .inr ⟨o, pid, rfl, hp, by simp only [hp]⟩

theorem setDupFlag_same (e : Engine) (id : Nat) (v : Bool) : SameBut (e.setDupFlag id v) e := by
  rcases setDupFlag_cases e id v with ⟨_, h⟩ | ⟨o, _, h⟩ <;> rw [h]
  · exact .refl e
  · exact setOp_same e _

theorem setDupFlag_nextOpId (e : Engine) (id : Nat) (v : Bool) : (e.setDupFlag id v).nextOpId = e.nextOpId := by
  rcases setDupFlag_cases e id v with ⟨_, h⟩ | ⟨o, _, h⟩ <;> rw [h]
  rfl

theorem clearQos2_same (e : Engine) (id : Nat) : SameBut (e.clearQos2 id) e := by
  rcases clearQos2_cases e id with ⟨_, h⟩ | ⟨o, _, h⟩ <;> rw [h]
  · exact .refl e
  · exact setOp_same e _

theorem unbind_same (e : Engine) (id : Nat) : SameBut (e.unbind id) e := by
  rcases unbind_cases e id with ⟨_, h⟩ | ⟨o, pid, _, _, h⟩ <;> rw [h]
  · exact .refl e
  · exact ⟨rfl, rfl, rfl, rfl, rfl, rfl, rfl, rfl⟩

theorem setDupFold_same (b : Bool) (l : List Nat) (en : Engine) : SameBut (l.foldl (fun en id => en.setDupFlag id b) en) en :=
  foldl_preserves (fun en id => en.setDupFlag id b) (SameBut · en) (fun x id hx => (setDupFlag_same x id b).trans hx) l en (.refl en)

/-! ### user events, connection opened -/

/-- `handle_user_event`: the operation just created is tracked, so the `panic!` of `enqueue_operation` is not reached -/
theorem submit_eq (e : Engine) (p : Packet) (user : Option (Nat × Option Nat)) (q : QueueKind) (front : Bool) :
    e.submit p user q front =
      if !(e.createOp p user).1.opPassesPolicy p then
        (((e.createOp p user).1.completeFailure e.nextOpId "OfflineQueuePolicyFailed").1, .ok)
      else ((e.createOp p user).1.queued e.nextOpId q front, .ok) := by
  unfold Engine.submit
  simp only [enqueue_created]
  rfl

/-- the engine `handle_network_event_connection_opened` starts the handshake from -/
def Engine.opening (e : Engine) : Engine := { e with state := .pendingConnack, current := none, pendingWrite := false, dec := {} }

theorem handleOpened_eq (e : Engine) (d : Nat) :
    e.handleOpened d =
      if e.state != .disconnected then ({ e with state := .halted }, .err "InternalStateError")
      else ({ (e.opening.createOp e.opening.createConnect none).1.queued e.opening.nextOpId .high true with
                connackDeadline := some d, connectClean := connectIsClean e.opening.createConnect }, .ok) := by
  unfold Engine.handleOpened
  simp only [enqueue_created]
  rfl

/-! ### the close handler: the operation being written -/

/-- how `closeCurrent` ends once the operation has been re-filed or failed: the slot is cleared unless the failure returned
    an error -/
def closeCurrentEnd (x : Engine × Res) : Engine × Res :=
  if x.2.isOk then ({ x.1 with current := none }, .ok) else x

theorem closeCurrent_eq (e : Engine) {id : Nat} {o : Op} (hc : e.current = some id) (ho : e.op? id = some o) :
    e.closeCurrent = closeCurrentEnd (
        match o.packet with
        | .subscribe _ | .unsubscribe _ =>
          if passesPolicy o.packet e.cfg.policy then ({ e with userQ := id :: e.userQ }, .ok)
          else e.completeFailure id "OfflineQueuePolicyFailed"
        | .publish p =>
          if p.dup then
            (if e.pendingPub.lookup p.packetId == some id then (e, .ok) else ({ e with resubQ := id :: e.resubQ }, .ok))
          else if p.qos = 2 && o.pubrel.isSome then ({ e with highQ := id :: e.highQ }, .ok)
          else if passesPolicy o.packet e.cfg.policy then ({ e with userQ := id :: e.userQ }, .ok)
          else e.completeFailure id "OfflineQueuePolicyFailed"
        | _ => ((e.completeFailure id "ConnectionClosed").1, ignoreUserDisconnect (e.completeFailure id "ConnectionClosed").2)) := by
  unfold Engine.closeCurrent closeCurrentEnd
  simp only [hc, ho]
  rfl

/-- **`apply_connection_closed_to_current_operation`, case by case**: the operation being written goes to the front of the
    user queue (it passes the offline-queue policy), stays where it is (a retransmission the pending-publish table still
    holds), goes to the front of the resubmit queue (a retransmission not in that table), to the front of the
    high-priority queue (a publish that holds a PUBREL, which is what is being written), or fails. -/
theorem closeCurrent_cases (e : Engine) {id : Nat} {o : Op} (hc : e.current = some id) (ho : e.op? id = some o) :
    (e.closeCurrent = ({ e with userQ := id :: e.userQ, current := none }, .ok) ∧ passesPolicy o.packet e.cfg.policy = true ∧
      ∀ p, o.packet = .publish p → p.dup = false ∧ ¬(p.qos = 2 ∧ o.pubrel.isSome = true)) ∨
    (∃ p, o.packet = .publish p ∧ p.dup = true ∧
      ((e.pendingPub.lookup p.packetId = some id ∧ e.closeCurrent = ({ e with current := none }, .ok)) ∨
       (e.pendingPub.lookup p.packetId ≠ some id ∧ e.closeCurrent = ({ e with resubQ := id :: e.resubQ, current := none }, .ok)))) ∨
    (∃ p, o.packet = .publish p ∧ p.dup = false ∧ o.pubrel.isSome = true ∧
      e.closeCurrent = ({ e with highQ := id :: e.highQ, current := none }, .ok)) ∨
    (∃ k, (isDisconnect o.packet = false ∧ e.closeCurrent = closeCurrentEnd (e.completeFailure id k)) ∨
      e.closeCurrent = closeCurrentEnd ((e.completeFailure id k).1, ignoreUserDisconnect (e.completeFailure id k).2)) := by
  have hE := closeCurrent_eq e hc ho
  have hpol := Decidable.em (passesPolicy o.packet e.cfg.policy = true)
  generalize o.packet = pk at hE hpol ⊢
  cases pk with
  | subscribe s | unsubscribe s =>
    dsimp only at hE
    rcases hpol with hpol | hpol
    · rw [if_pos hpol] at hE; exact .inl ⟨hE, hpol, fun _ h => nomatch h⟩
    · rw [if_neg hpol] at hE; exact .inr (.inr (.inr ⟨_, .inl ⟨rfl, hE⟩⟩))
  | publish p =>
    dsimp only at hE
    by_cases hd : p.dup = true
    · rw [if_pos hd] at hE
      refine .inr (.inl ⟨p, rfl, hd, ?_⟩)
      by_cases hl : e.pendingPub.lookup p.packetId = some id
      · rw [if_pos (by rw [hl]; exact beq_self_eq_true _)] at hE; exact .inl ⟨hl, hE⟩
      · rw [if_neg (by simpa using hl)] at hE; exact .inr ⟨hl, hE⟩
    · rw [if_neg hd] at hE
      have hd' : p.dup = false := by simpa using hd
      by_cases h2 : (decide (p.qos = 2) && o.pubrel.isSome) = true
      · rw [if_pos h2] at hE
        exact .inr (.inr (.inl ⟨p, rfl, hd', (Bool.and_eq_true _ _ ▸ h2).2, hE⟩))
      · rw [if_neg h2] at hE
        rcases hpol with hpol | hpol
        · rw [if_pos hpol] at hE
          refine .inl ⟨hE, hpol, fun q hq => ?_⟩
          cases hq
          exact ⟨hd', fun hh => h2 (by simp [hh.1, hh.2])⟩
        · rw [if_neg hpol] at hE; exact .inr (.inr (.inr ⟨_, .inl ⟨rfl, hE⟩⟩))
  | _ => exact .inr (.inr (.inr ⟨_, .inr hE⟩))

theorem closeCurrent_idle (e : Engine) (h : e.current = none ∨ ∃ id, e.current = some id ∧ e.op? id = none) :
    e.closeCurrent = ({ e with current := none }, .ok) := by
  unfold Engine.closeCurrent
  rcases h with h | ⟨id, h, ho⟩
  · rw [h]
  · rw [h]; simp only [ho]

theorem closeCurrent_keeps (P : Engine → Prop) (hP : ∀ e id k, P e → P (e.completeFailure id k).1)
    (hq : ∀ e (u r q : List Nat), P e → P { e with userQ := u, resubQ := r, highQ := q, current := none })
    (e : Engine) (h : P e) : P e.closeCurrent.1 := by
  have hend : ∀ x : Engine × Res, P x.1 → P (closeCurrentEnd x).1 := by
    intro x hx; unfold closeCurrentEnd; split
    · exact hq _ _ _ _ hx
    · exact hx
  cases hc : e.current with
  | none => rw [closeCurrent_idle e (.inl hc)]; exact hq e _ _ _ h
  | some id =>
    cases ho : e.op? id with
    | none => rw [closeCurrent_idle e (.inr ⟨id, hc, ho⟩)]; exact hq e _ _ _ h
    | some o =>
      rcases closeCurrent_cases e hc ho with ⟨h1, _⟩ | ⟨p, _, _, ⟨_, h1⟩ | ⟨_, h1⟩⟩ | ⟨p, _, _, _, h1⟩ | ⟨k, ⟨_, h1⟩ | h1⟩ <;> rw [h1]
      · exact hq e _ _ _ h
      · exact hq e _ _ _ h
      · exact hq e _ _ _ h
      · exact hq e _ _ _ h
      · exact hend _ (hP e id k h)
      · exact hend _ (hP e id k h)

theorem closeCurrent_timeouts (e : Engine) : e.closeCurrent.1.timeouts = e.timeouts :=
  closeCurrent_keeps (·.timeouts = e.timeouts) (fun x id k hx => (completeFailure_same x id k).timeouts.trans hx)
    (fun _ _ _ _ hx => hx) e rfl

/-! ### the close handler: the two passes over the operation table -/

/-- `e'` is `e` with the slow-start mark and the interruption count of every operation rewritten -/
def Remarked (e e' : Engine) : Prop :=
  ∃ g : Nat → Op → Op, (∀ id o, ∃ s n, g id o = { o with slowStart := s, interruptions := n }) ∧
    e' = { e with ops := e.ops.map fun x => (x.1, g x.1 x.2) }

theorem Remarked.refl (e : Engine) : Remarked e e :=
  ⟨fun _ o => o, fun _ o => ⟨o.slowStart, o.interruptions, rfl⟩, by rw [show e.ops.map (fun x => (x.1, x.2)) = e.ops from List.map_id' _]⟩

theorem slowStartInit_remarked {e e' : Engine} (h : e.slowStartInit = some e') : Remarked e e' := by
  unfold Engine.slowStartInit at h
  split at h
  · cases h; exact .refl e
  · simp only [] at h
    split at h
    · cases h
      refine ⟨fun id o => if (e.pendingNonPub.map (·.2) ++ e.pendingPub.map (·.2)).contains id then { o with slowStart := 1 } else o,
        fun id o => ?_, rfl⟩
      dsimp only
      split
      · exact ⟨1, o.interruptions, rfl⟩
      · exact ⟨o.slowStart, o.interruptions, rfl⟩
    · cases h

theorem updateInterrupted_remarked {e e' : Engine} (h : e.updateInterrupted = some e') : Remarked e e' := by
  unfold Engine.updateInterrupted at h
  split at h
  · cases h; exact .refl e
  · simp only [] at h
    split at h
    · cases h
      exact ⟨fun id o => { o with interruptions := o.interruptions + (e.pendingNonPub.map (·.2) ++ e.pendingPub.map (·.2)).count id },
        fun id o => ⟨o.slowStart, _, rfl⟩, rfl⟩
    · cases h

/-- neither pass hits its `unwrap()` when every unacknowledged id is tracked -/
theorem remarkingPasses_some {e : Engine}
    (h : (e.pendingNonPub.map (·.2) ++ e.pendingPub.map (·.2)).all (fun id => (e.ops.lookup id).isSome) = true) :
    (∃ e', e.slowStartInit = some e') ∧ ∃ e', e.updateInterrupted = some e' := by
  constructor
  · unfold Engine.slowStartInit
    split
    · exact ⟨_, rfl⟩
    · simp only []; rw [if_pos h]; exact ⟨_, rfl⟩
  · unfold Engine.updateInterrupted
    split
    · exact ⟨_, rfl⟩
    · simp only []; rw [if_pos (by exact h)]; exact ⟨_, rfl⟩

/-! ### the close handler, part 1 -/

/-- what the high-priority queue held and carries no PUBREL fails; the queue is emptied -/
def Engine.closeFailHigh (e : Engine) : Engine × Res :=
  ({ e with highQ := [] } : Engine).failAllIgnoringDisconnect
    (e.highQ.filter (fun id => match e.op? id with | some o => o.pubrel.isNone | none => true)) "ConnectionClosed"

/-- what was written but not flushed rejoins the user queue or fails, by the offline-queue policy -/
def Engine.closeFailUnflushed (e : Engine) : Engine × Res :=
  let pr := ({ e with pendingWC := [] } : Engine).partitionByPolicy e.pendingWC
  ({ e with pendingWC := [], userQ := e.userQ ++ pr.1 } : Engine).failAllIgnoringDisconnect pr.2 "OfflineQueuePolicyFailed"

theorem closeFailStage_eq (e : Engine) :
    e.closeFailStage = (e.closeFailHigh.1.closeFailUnflushed.1.failExceeding.1,
      ((Res.ok.fold e.closeFailHigh.2).fold e.closeFailHigh.1.closeFailUnflushed.2).fold
        e.closeFailHigh.1.closeFailUnflushed.1.failExceeding.2) := by
  -- componentwise: unifying the pairs as a whole is far slower to check
  apply Prod.ext
  · unfold Engine.closeFailStage Engine.closeFailHigh Engine.closeFailUnflushed; rfl
  · unfold Engine.closeFailStage Engine.closeFailHigh Engine.closeFailUnflushed; rfl

theorem closeFailStage_keeps (P : Engine → Prop) (hP : ∀ e id k, P e → P (e.completeFailure id k).1)
    (hh : ∀ e, P e → P { e with highQ := [] })
    (hw : ∀ e, P e → P { e with pendingWC := [], userQ := e.userQ ++ (({ e with pendingWC := [] } : Engine).partitionByPolicy e.pendingWC).1 })
    (e : Engine) (h : P e) : P e.closeFailStage.1 := by
  rw [closeFailStage_eq]
  have h5 : P e.closeFailHigh.1 := failAllIgnoringDisconnect_keeps P _ _ (fun e id _ => hP e id _) _ (hh e h)
  exact failExceeding_keeps P hP _ (failAllIgnoringDisconnect_keeps P _ _ (fun e id _ => hP e id _) _ (hw _ h5))

/-! ### the close handler, part 2 -/

/-- an unacknowledged publish is marked DUP and joins the back of the resubmit queue -/
def requeuePubStep (en : Engine) (id : Nat) : Engine := { en.setDupFlag id true with resubQ := en.resubQ ++ [id] }

/-- an unacknowledged subscribe / unsubscribe goes to the front of the user queue -/
def requeueSubStep (en : Engine) (id : Nat) : Engine := { en with userQ := id :: en.userQ }

def Engine.requeuePubs (e : Engine) : Engine := (vals e.pendingPub).foldl requeuePubStep { e with pendingPub := [] }

def Engine.requeueSubs (e : Engine) : Engine := (vals e.pendingNonPub).foldl requeueSubStep { e with pendingNonPub := [] }

/-- the user queue is filtered by the offline-queue policy; what it rejects fails -/
def Engine.filterUserQ (e : Engine) : Engine × Res :=
  let e12 : Engine := { e with userQ := [] }
  let pr := e12.partitionByPolicy e.userQ
  let x := e12.failAll pr.2 "OfflineQueuePolicyFailed"
  ({ x.1 with userQ := x.1.userQ ++ pr.1 }, x.2)

theorem closeRequeueStage_eq (e : Engine) : e.closeRequeueStage = e.requeuePubs.requeueSubs.filterUserQ := by
  -- fold by fold: with the two folds named, what is left to compare is `filterUserQ` on a variable
  have h1 : e.requeuePubs = (e.pendingPub.map (·.2)).foldl
      (fun en id => { en.setDupFlag id true with resubQ := en.resubQ ++ [id] }) { e with pendingPub := [] } := rfl
  have h2 : ∀ e10 : Engine, e10.requeueSubs = (e10.pendingNonPub.map (·.2)).foldl
      (fun en id => { en with userQ := id :: en.userQ }) { e10 with pendingNonPub := [] } := fun _ => rfl
  unfold Engine.closeRequeueStage
  simp only [← h1]
  simp only [← h2]
  generalize e.requeuePubs.requeueSubs = e11
  unfold Engine.filterUserQ
  rfl

/-- the partition named: what it rejects fails, what it retains is appended to the queue -/
theorem filterUserQ_cases (e : Engine) : ∃ (pr : List Nat × List Nat) (x : Engine × Res),
    pr = ({ e with userQ := [] } : Engine).partitionByPolicy e.userQ ∧
    x = ({ e with userQ := [] } : Engine).failAll pr.2 "OfflineQueuePolicyFailed" ∧
    e.filterUserQ = ({ x.1 with userQ := x.1.userQ ++ pr.1 }, x.2) :=
  ⟨_, _, rfl, rfl, rfl⟩

theorem filterUserQ_keeps (P : Engine → Prop) (hP : ∀ e id k, P e → P (e.completeFailure id k).1)
    (hq : ∀ e (u : List Nat), P e → P { e with userQ := u }) (e : Engine) (h : P e) : P e.filterUserQ.1 :=
  hq _ _ (failAll_keeps P _ _ (fun x id _ => hP x id _) _ (hq e [] h))

theorem requeuePubStep_fields (en : Engine) (id : Nat) :
    (requeuePubStep en id).state = en.state ∧ (requeuePubStep en id).pendingPub = en.pendingPub ∧
    (requeuePubStep en id).pendingNonPub = en.pendingNonPub ∧ (requeuePubStep en id).highQ = en.highQ ∧
    (requeuePubStep en id).userQ = en.userQ ∧ (requeuePubStep en id).resubQ = en.resubQ ++ [id] := by
  have s := setDupFlag_same en id true
  unfold requeuePubStep
  exact ⟨s.state, s.pendingPub, s.pendingNonPub, s.highQ, s.userQ, rfl⟩

/-- emptying the pending-publish table commutes with the re-queueing fold (the fold never reads the table) -/
theorem requeuePubs_comm (e : Engine) : e.requeuePubs = { (vals e.pendingPub).foldl requeuePubStep e with pendingPub := [] } :=
  foldl_comm requeuePubStep (fun x => { x with pendingPub := [] }) (fun x id => by
    unfold requeuePubStep Engine.setDupFlag
    rw [show ({ x with pendingPub := [] } : Engine).op? id = x.op? id from rfl]
    cases x.op? id <;> rfl) _ e

theorem requeueSubs_comm (e : Engine) :
    e.requeueSubs = { (vals e.pendingNonPub).foldl requeueSubStep e with pendingNonPub := [] } :=
  foldl_comm requeueSubStep (fun x => { x with pendingNonPub := [] }) (fun _ _ => rfl) _ e

theorem closeRequeueStage_keeps (P : Engine → Prop) (hP : ∀ e id k, P e → P (e.completeFailure id k).1)
    (hd : ∀ e id, P e → P (e.setDupFlag id true))
    (hq : ∀ e (u r : List Nat) (pp pn : List (Nat × Nat)), P e →
      P { e with userQ := u, resubQ := r, pendingPub := pp, pendingNonPub := pn })
    (e : Engine) (h : P e) : P e.closeRequeueStage.1 := by
  rw [closeRequeueStage_eq]
  have h10 : P e.requeuePubs :=
    foldl_preserves requeuePubStep P (fun en id hen => hq (en.setDupFlag id true) _ _ _ _ (hd en id hen)) _ _
      (hq e _ _ _ _ h)
  have h11 : P e.requeuePubs.requeueSubs :=
    foldl_preserves requeueSubStep P (fun en id hen => hq en _ _ _ _ hen) _ _ (hq _ _ _ _ _ h10)
  exact filterUserQ_keeps P hP (fun x u hx => hq x u _ _ _ hx) _ h11

/-! ### the close handler as a whole -/

/-- the engine the close handler starts from: Disconnected, the timers and the timeout records dropped -/
def Engine.closing (e : Engine) : Engine :=
  { e with state := .disconnected, connackDeadline := none, nextPing := none, pingDeadline := none, timeouts := [] }

theorem handleClosedCore_keeps (P : Engine → Prop) (e : Engine) (hid : e.state = .disconnected → P e)
    (h0 : e.state ≠ .disconnected → P e.closing)
    (hc : ∀ x, P x → P x.closeCurrent.1) (hm : ∀ x x', Remarked x x' → P x → P x')
    (hf : ∀ x, P x → P x.closeFailStage.1) (hr : ∀ x, P x → P x.closeRequeueStage.1) : P e.handleClosedCore.1 := by
  unfold Engine.handleClosedCore
  by_cases hd : e.state = .disconnected
  · rw [if_pos (by rw [hd]; rfl)]; exact hid hd
  · rw [if_neg (by simpa using hd)]
    have h1 := hc _ (h0 hd)
    unfold Engine.closing at h1
    simp only []
    generalize Engine.closeCurrent _ = x1 at h1 ⊢
    obtain ⟨e1, r1⟩ := x1
    simp only [] at h1 ⊢
    split
    · exact h1
    · cases hss : e1.slowStartInit with
      | none => exact h1
      | some e2 =>
        have h2 := hm e1 e2 (slowStartInit_remarked hss) h1
        simp only []
        cases hui : e2.updateInterrupted with
        | none => exact h2
        | some e3 =>
          have h9 := hf e3 (hm e2 e3 (updateInterrupted_remarked hui) h2)
          simp only []
          generalize e3.closeFailStage = x9 at h9 ⊢
          obtain ⟨e9, rabc⟩ := x9
          exact hr e9 h9

theorem handleClosedCore_idle {e : Engine} (hs : e.state = .disconnected) : e.handleClosedCore = (e, .err "InternalStateError") := by
  unfold Engine.handleClosedCore
  rw [if_pos (by rw [hs]; rfl)]

theorem handleClosedCore_eq {e e1 e2 e3 : Engine} (hs : e.state ≠ .disconnected)
    (h1 : e.closing.closeCurrent = (e1, .ok))
    (h2 : e1.slowStartInit = some e2) (h3 : e2.updateInterrupted = some e3) :
    e.handleClosedCore = (e3.closeFailStage.1.closeRequeueStage.1, e3.closeFailStage.2.fold e3.closeFailStage.1.closeRequeueStage.2) := by
  unfold Engine.closing at h1
  unfold Engine.handleClosedCore
  rw [if_neg (by simpa using hs)]
  simp only [h1, h2, h3]
  rfl

theorem handleClosed_eq (e : Engine) :
    e.handleClosed = if e.state == .disconnected then (e, .err "InternalStateError") else
      ((Engine.processAckTimeouts (e.timeouts.length + 1) e).1.handleClosedCore.1,
        (ignoreUserDisconnect (Engine.processAckTimeouts (e.timeouts.length + 1) e).2).fold
          (Engine.processAckTimeouts (e.timeouts.length + 1) e).1.handleClosedCore.2) := by
  unfold Engine.handleClosed
  generalize Engine.processAckTimeouts (e.timeouts.length + 1) e = x
  rfl

theorem handleClosed_fst (e : Engine) :
    e.handleClosed.1 = if e.state == .disconnected then e else (Engine.processAckTimeouts (e.timeouts.length + 1) e).1.handleClosedCore.1 := by
  rw [handleClosed_eq]
  exact apply_ite Prod.fst ..

/-! ### CONNACK and session -/

/-- the resubmit queue of a lost session, split by the offline-queue policy into what is retained and what is rejected -/
def Engine.sessionSplit (e : Engine) : List Nat × List Nat := ({ e with resubQ := [] } : Engine).partitionByPolicy e.resubQ

/-- the session was lost, up to the failures: the retained retransmissions have lost their DUP flag and rejoined the user queue -/
def Engine.sessionRetain (e : Engine) : Engine :=
  let ea := e.sessionSplit.1.foldl (fun en id => en.setDupFlag id false) { e with resubQ := [] }
  { ea with userQ := ea.userQ ++ e.sessionSplit.1 }

theorem sessionLostStage_eq (e : Engine) : e.sessionLostStage =
    ({ (e.sessionRetain.failAll e.sessionSplit.2 "OfflineQueuePolicyFailed").1 with inQos2 := [], allocated := [] },
      (e.sessionRetain.failAll e.sessionSplit.2 "OfflineQueuePolicyFailed").2) := by
  unfold Engine.sessionLostStage Engine.sessionRetain Engine.sessionSplit
  rfl

theorem sessionRetain_cases (e : Engine) : ∃ ea : Engine,
    ea = e.sessionSplit.1.foldl (fun en id => en.setDupFlag id false) { e with resubQ := [] } ∧
    SameBut ea { e with resubQ := [] } ∧ e.sessionRetain = { ea with userQ := ea.userQ ++ e.sessionSplit.1 } :=
  ⟨_, rfl, setDupFold_same false _ _, rfl⟩

theorem sessionRetain_keeps (P : Engine → Prop) (hd : ∀ x id, P x → P (x.setDupFlag id false))
    (hq : ∀ x (u r : List Nat), P x → P { x with userQ := u, resubQ := r }) (e : Engine) (h : P e) : P e.sessionRetain := by
  obtain ⟨_, rfl, -, heq⟩ := sessionRetain_cases e
  rw [heq]
  exact hq _ _ _ (foldl_preserves (fun en id => en.setDupFlag id false) P hd _ _ (hq e _ _ h))

theorem sessionLostStage_keeps (P : Engine → Prop) (hP : ∀ x id k, P x → P (x.completeFailure id k).1)
    (hd : ∀ x id, P x → P (x.setDupFlag id false))
    (hq : ∀ x (u r i : List Nat) (a : List (Nat × Nat)), P x → P { x with userQ := u, resubQ := r, inQos2 := i, allocated := a })
    (e : Engine) (h : P e) : P e.sessionLostStage.1 := by
  rw [sessionLostStage_eq]
  exact hq _ _ _ _ _ (failAll_keeps P _ _ (fun x id _ => hP x id _) _
    (sessionRetain_keeps P hd (fun x u r hx => hq x u r _ _ hx) e h))

def restartStep (en : Engine) (id : Nat) : Engine := (en.unbind id).clearQos2 id

theorem restartStep_same (e : Engine) (id : Nat) : SameBut (restartStep e id) e := (clearQos2_same _ id).trans (unbind_same e id)

theorem sessionRequeueStage_eq (e : Engine) : e.sessionRequeueStage =
    { (e.userQ.foldl restartStep e) with
      resubQ := sortIds (e.userQ.foldl restartStep e).resubQ, userQ := sortIds (e.userQ.foldl restartStep e).userQ } := rfl

theorem sessionRequeueStage_keeps (P : Engine → Prop) (hu : ∀ x id, P x → P (x.unbind id)) (hc : ∀ x id, P x → P (x.clearQos2 id))
    (hq : ∀ x (u r : List Nat), P x → P { x with userQ := u, resubQ := r }) (e : Engine) (h : P e) : P e.sessionRequeueStage := by
  rw [sessionRequeueStage_eq]
  exact hq _ _ _ (foldl_preserves restartStep P (fun x id hx => hc _ id (hu x id hx)) _ _ h)

/-- the assertions `apply_session_present_to_connection` ends with -/
def sessionAsserts (e3 : Engine) (r1 : Res) : Engine × Res :=
  if !e3.highQ.isEmpty then (e3, .panic "assert_high_priority_queue_empty@apply_session_present")
  else if !e3.pendingPub.isEmpty then (e3, .panic "assert_pending_publish_empty@apply_session_present")
  else if !e3.pendingNonPub.isEmpty then (e3, .panic "assert_pending_non_publish_empty@apply_session_present")
  else if !e3.timeouts.isEmpty then (e3, .panic "assert_ack_timeouts_empty@apply_session_present")
  else if !e3.pendingWC.all (isConnectOp e3) then (e3, .panic "assert_pending_wc_only_connect@apply_session_present")
  else (e3, r1)

theorem applySessionPresent_eq (e : Engine) (present : Bool) :
    e.applySessionPresent present =
      sessionAsserts (if !present then e.sessionLostStage else (e, Res.ok)).1.sessionRequeueStage
        (if !present then e.sessionLostStage else (e, Res.ok)).2 := by
  unfold Engine.applySessionPresent sessionAsserts
  generalize (if (!present) = true then e.sessionLostStage else (e, Res.ok)) = x
  rfl

theorem applySessionPresent_fst (e : Engine) (present : Bool) :
    (e.applySessionPresent present).1 = (if !present then e.sessionLostStage else (e, Res.ok)).1.sessionRequeueStage := by
  rw [applySessionPresent_eq]
  simp only [sessionAsserts, apply_ite Prod.fst, ite_self]

theorem applySessionPresent_keeps (P : Engine → Prop) (hl : ∀ x, P x → P x.sessionLostStage.1) (hr : ∀ x, P x → P x.sessionRequeueStage)
    (e : Engine) (present : Bool) (h : P e) : P (e.applySessionPresent present).1 := by
  rw [applySessionPresent_fst]
  exact hr _ (fst_ite P (fun _ => hl e h) (fun _ => h))

theorem initSlowStart_shape (e : Engine) : e.initSlowStart = { e with slowStartCount := e.initSlowStart.slowStartCount } := by
  unfold Engine.initSlowStart
  split <;> rfl

/-- the engine an accepted CONNACK finds: Connected under the negotiated settings, the session not yet looked at -/
def Engine.connackEntered (e : Engine) (c : Connack) : Engine :=
  { e with state := .connected, hasConnected := true, settings := some (e.buildSettings c), connackDeadline := none,
           outRes := e.outRes.reset (c.topicAliasMaximum.getD 0), inRes := e.inRes.reset, pingDeadline := none,
           nextPing := if (e.buildSettings c).serverKeepAlive > 0 then some (e.now + (e.buildSettings c).serverKeepAlive * 1000) else none }

/-- how `handle_connack` ends: the CONNACK is announced unless the session step failed -/
def connackEnd (c : Connack) (x : Engine × Res) : Engine × Res :=
  if !x.2.isOk then x else ({ x.1 with outEvents := x.1.outEvents ++ [Packet.connack c] }, .ok)

/-- **`handle_connack`, case by case**: the packet is a protocol error or fails validation, and nothing changes; the server
    refused the connection, which is announced; or the CONNACK is accepted in PendingConnack and the slow start and the session
    step follow -/
theorem handleConnack_cases (e : Engine) (c : Connack) :
    ((e.state ≠ .pendingConnack ∨ (c.sessionPresent && e.connectClean) = true) ∧ e.handleConnack c = (e, .err "ProtocolError")) ∨
    (∃ x, vConnackInbound c = .error x ∧ e.handleConnack c = (e, okOrErr (.error x))) ∨
    (e.state = .pendingConnack ∧ c.reasonCode ≠ 0 ∧
      e.handleConnack c = ({ e with outEvents := e.outEvents ++ [Packet.connack c] }, .err "ConnectionEstablishmentFailure")) ∨
    (e.state = .pendingConnack ∧ c.reasonCode = 0 ∧ (c.sessionPresent && e.connectClean) = false ∧
      e.handleConnack c = connackEnd c ((e.connackEntered c).initSlowStart.applySessionPresent c.sessionPresent)) := by
  unfold Engine.handleConnack
  by_cases hs : e.state = .pendingConnack
  · rw [if_neg (by simp [hs])]
    by_cases hr : c.reasonCode = 0
    · rw [if_neg (by simp [hr])]
      cases hv : vConnackInbound c with
      | error x => exact .inr (.inl ⟨x, rfl, rfl⟩)
      | ok u =>
        simp only []
        by_cases hc : (c.sessionPresent && e.connectClean) = true
        · rw [if_pos hc]; exact .inl ⟨.inr hc, rfl⟩
        · rw [if_neg hc]
          refine .inr (.inr (.inr ⟨hs, hr, by simpa using hc, ?_⟩))
          unfold connackEnd Engine.connackEntered
          rfl
    · rw [if_pos hr]; exact .inr (.inr (.inl ⟨hs, hr, rfl⟩))
  · rw [if_pos (by simp [hs])]; exact .inl ⟨.inl hs, rfl⟩

theorem handleConnack_keeps (P : Engine → Prop) (e : Engine) (c : Connack)
    (hev : ∀ x, P x → P { x with outEvents := x.outEvents ++ [Packet.connack c] })
    (hs : e.state = .pendingConnack → P ((e.connackEntered c).initSlowStart.applySessionPresent c.sessionPresent).1) (h : P e) :
    P (e.handleConnack c).1 := by
  rcases handleConnack_cases e c with ⟨_, heq⟩ | ⟨_, _, heq⟩ | ⟨_, _, heq⟩ | ⟨hst, _, _, heq⟩ <;> rw [heq]
  · exact h
  · exact h
  · exact hev e h
  · unfold connackEnd
    exact fst_ite P (fun _ => hs hst) (fun _ => hev _ (hs hst))

/-! ### inbound packets: the acknowledgement handlers, PUBLISH, dispatch -/

theorem stateBlocksAcks_false {s : PState} (h : stateBlocksAcks s = false) : s ≠ .disconnected ∧ s ≠ .pendingConnack := by
  cases s <;> first | exact ⟨by decide, by decide⟩ | cases h

/-- a PUBREC accepted for a QoS 2 publish: the operation gets its PUBREL and joins the back of the high-priority queue -/
def Engine.withPubrel (e : Engine) (opId : Nat) (o : Op) (pid : Nat) : Engine :=
  { e.setOp { o with pubrel := some (.pubrel { packetId := pid }) } with highQ := e.highQ ++ [opId] }

/-- where an operation that an acknowledgement completes stands: bound in the table of subscribes, or in that of publishes as a
    QoS 1 publish or as one neither being written nor queued -/
def Engine.acks (e : Engine) (opId : Nat) (o : Op) : Prop :=
  (∃ pid, e.pendingNonPub.lookup pid = some opId) ∨
    ((∃ pid, e.pendingPub.lookup pid = some opId) ∧
      (publishQos o.packet = some 1 ∨ (e.current == some opId || e.highQ.contains opId) = false))

/-- **what an inbound packet does**: the CONNACK handler; the packet is refused; an acknowledgement completes the operation
    its packet id is bound to; a PUBREL is recorded and queued; the events, the inbound QoS 2 ids or the ping deadline change,
    with an answer queued behind or without.  `stray`: a table binds the packet id to a number that names no operation, or
    no publish; the acknowledgement handlers `unwrap` / `panic!` there, except `handle_pubrec`, which lets it pass. -/
inductive Handled (e : Engine) : Packet → Engine × Res → Prop
  | connack (c : Connack) : Handled e (.connack c) (e.handleConnack c)
  | refused {p : Packet} (k : String) : Handled e p (e, .err k)
  | stray {p : Packet} (r : Res) (pid opId : Nat) (hb : stateBlocksAcks e.state = false)
      (h : (e.pendingNonPub.lookup pid = some opId ∧ e.op? opId = none) ∨
        (e.pendingPub.lookup pid = some opId ∧ ∀ o, e.op? opId = some o → publishQos o.packet = none)) : Handled e p (e, r)
  | completes {p : Packet} (opId : Nat) (o : Op) (c : Completion) (hb : stateBlocksAcks e.state = false)
      (ho : e.op? opId = some o) (hres : (resultFor o.packet (some c)).isSome = true) (hw : e.acks opId o) :
      Handled e p (e.completeSuccess opId (some c))
  | marked {p : Packet} (opId : Nat) (o : Op) (pid : Nat) (hb : stateBlocksAcks e.state = false)
      (hl : e.pendingPub.lookup pid = some opId) (ho : e.op? opId = some o) (hq : publishQos o.packet = some 2)
      (hr : o.pubrel = none) : Handled e p (e.withPubrel opId o pid, .ok)
  | noted {p : Packet} (ev : List Packet) (q : List Nat) (pd : Option Nat) (r : Res)
      (hr : (r = .ok ∧ stateBlocksAcks e.state = false) ∨ ∃ k, r = .err k) :
      Handled e p ({ e with outEvents := ev, inQos2 := q, pingDeadline := pd }, r)
  | answered {p : Packet} (ev : List Packet) (q : List Nat) (a : Packet) (hb : stateBlocksAcks e.state = false)
      (ha : publishQos a = none) : Handled e p (({ e with outEvents := ev, inQos2 := q } : Engine).withAnswer a, .ok)

/-- how the handlers of SUBACK, UNSUBACK, PUBREC and PUBCOMP begin -/
theorem Handled.opening (e : Engine) (p : Packet) (table : List (Nat × Nat)) (pid : Nat) (k1 k2 : String) (r3 : Res)
    (k : Nat → Op → Engine × Res) (ht : table = e.pendingNonPub ∨ table = e.pendingPub)
    (hk : ∀ id o, stateBlocksAcks e.state = false → table.lookup pid = some id → e.op? id = some o → Handled e p (k id o)) :
    Handled e p (if stateBlocksAcks e.state then (e, .err k1)
      else match table.lookup pid with
        | none => (e, .err k2)
        | some id =>
          match e.op? id with
          | none => (e, r3)
          | some o => k id o) := by
  refine ite_elim _ (fun _ => .refused k1) (fun hb => ?_)
  have hb : stateBlocksAcks e.state = false := by simpa using hb
  cases hl : table.lookup pid with
  | none => exact .refused k2
  | some id =>
    dsimp only
    cases ho : e.op? id with
    | none =>
      refine .stray r3 pid id hb ?_
      rcases ht with rfl | rfl
      · exact .inl ⟨hl, ho⟩
      · exact .inr ⟨hl, fun o h => by rw [ho] at h; cases h⟩
    | some o => exact hk id o hb hl ho

theorem handleSuback_handled (e : Engine) (s : Suback) (p : Packet) : Handled e p (e.handleSuback s) := by
  unfold Engine.handleSuback
  refine Handled.opening e p _ _ _ _ _ _ (.inl rfl) (fun id o hb hl ho => ?_)
  cases hp : o.packet with
  | subscribe sub =>
    exact ite_elim _ (fun _ => .refused _) (fun _ => .completes id o _ hb ho (by rw [hp]; rfl) (.inl ⟨_, hl⟩))
  | _ => exact .refused _

theorem handleUnsuback_handled (e : Engine) (s : Suback) (p : Packet) : Handled e p (e.handleUnsuback s) := by
  unfold Engine.handleUnsuback
  refine Handled.opening e p _ _ _ _ _ _ (.inl rfl) (fun id o hb hl ho => ?_)
  cases hp : o.packet with
  | unsubscribe u =>
    have hc : ∀ codes, Handled e p (e.completeSuccess id (some (.unsuback s.packetId codes))) :=
      fun _ => .completes id o _ hb ho (by rw [hp]; rfl) (.inl ⟨_, hl⟩)
    exact ite_elim _ (fun _ => hc _) (fun _ => ite_elim _ (fun _ => .refused _) (fun _ => hc _))
  | _ => exact .refused _

theorem handlePuback_handled (e : Engine) (a : Ack) (p : Packet) : Handled e p (e.handlePuback a) := by
  unfold Engine.handlePuback
  refine ite_elim _ (fun _ => .refused _) (fun hb => ?_)
  cases hl : e.pendingPub.lookup a.packetId with
  | none => exact .refused _
  | some opId =>
    refine ite_elim _ (fun hq => ?_) (fun _ => .refused _)
    cases ho : e.op? opId with
    | none => rw [ho] at hq; cases hq
    | some o =>
      have hq : publishQos o.packet = some 1 := by rw [ho] at hq; exact eq_of_beq hq
      refine .completes opId o _ (by simpa using hb) ho ?_ (.inr ⟨⟨_, hl⟩, .inl hq⟩)
      cases hp : o.packet with
      | publish pb => rfl
      | _ => rw [hp] at hq; cases hq

theorem handlePubcomp_handled (e : Engine) (a : Ack) (p : Packet) : Handled e p (e.handlePubcomp a) := by
  unfold Engine.handlePubcomp
  refine Handled.opening e p _ _ _ _ _ _ (.inr rfl) (fun id o hb hl ho => ?_)
  cases hp : o.packet with
  | publish pb =>
    dsimp only
    refine ite_elim _ (fun _ => ite_elim _ (fun _ => ite_elim _ (fun _ => .refused _)
      (fun hg => ?_)) (fun _ => .refused _)) (fun _ => .refused _)
    exact .completes id o _ hb ho (by rw [hp]; rfl) (.inr ⟨⟨_, hl⟩, .inr (Bool.eq_false_iff.mpr hg)⟩)
  | _ => exact .stray _ a.packetId id hb (.inr ⟨hl, fun o' ho' => by rw [ho] at ho'; cases ho'; rw [hp]; rfl⟩)

theorem handlePubrec_handled (e : Engine) (a : Ack) (p : Packet) : Handled e p (e.handlePubrec a) := by
  unfold Engine.handlePubrec
  refine Handled.opening e p _ _ _ _ _ _ (.inr rfl) (fun id o hb hl ho => ?_)
  cases hp : o.packet with
  | publish pb =>
    dsimp only
    refine ite_elim _ (fun hq => ite_elim _ (fun _ => .refused _) (fun hr => ite_elim _
      (fun _ => ite_elim _ (fun _ => .refused _) (fun hg => ?_)) (fun _ => ?_))) (fun _ => .refused _)
    · exact .completes id o _ hb ho (by rw [hp]; rfl) (.inr ⟨⟨_, hl⟩, .inr (Bool.eq_false_iff.mpr hg)⟩)
    · -- the operation stays tracked under `id`, whether or not `id` is its own number
      have hop : ((e.setOp { o with pubrel := some (.pubrel { packetId := a.packetId }) }).op? id).isNone = false := by
        unfold Engine.setOp Engine.op?
        by_cases hid : id = o.id
        · rw [hid, lookup_mapInsert_self]; rfl
        · rw [lookup_mapInsert_ne _ _ _ _ hid, show e.ops.lookup id = some o from ho]; rfl
      rw [← hp]
      simp only [Engine.enqueue, hop, Bool.false_eq_true, ↓reduceIte]
      exact .marked id o _ hb hl ho (by rw [hp]; exact congrArg some hq) (Option.not_isSome_iff_eq_none.mp hr)
  | _ => exact .refused _

theorem handlePacket_handled (e : Engine) (p : Packet) : Handled e p (e.handlePacket p) := by
  cases p with
  | connack c => exact .connack c
  | publish pb =>
    show Handled e _ (e.handlePublish pb)
    rw [handlePublish_eq]
    refine ite_elim _ (fun _ => .refused _) (fun hb => ?_)
    have hb : stateBlocksAcks e.state = false := by simpa using hb
    refine ite_elim _ (fun _ => .noted _ e.inQos2 e.pingDeadline _ (.inl ⟨rfl, hb⟩)) (fun _ => ?_)
    refine ite_elim _ (fun _ => .answered _ e.inQos2 _ hb rfl) (fun _ => ?_)
    by_cases hc : e.inQos2.contains pb.packetId = true
    · rw [if_pos hc]; exact .answered e.outEvents e.inQos2 _ hb rfl
    · rw [if_neg hc]; exact .answered _ _ _ hb rfl
  | pingresp =>
    show Handled e _ e.handlePingresp
    unfold Engine.handlePingresp
    refine ite_elim _ (fun hs => ?_) (fun _ => .refused _)
    have hb : stateBlocksAcks e.state = false := by
      rcases (Bool.or_eq_true _ _).mp hs with h | h <;> rw [eq_of_beq h] <;> rfl
    exact ite_elim _ (fun _ => .noted e.outEvents e.inQos2 none _ (.inl ⟨rfl, hb⟩)) (fun _ => .refused _)
  | disconnect d =>
    show Handled e _ (e.handleDisconnect d)
    unfold Engine.handleDisconnect
    exact ite_elim _ (fun _ => .refused _) (fun _ => ite_elim _ (fun _ => .refused _)
      (fun _ => .noted _ e.inQos2 e.pingDeadline _ (.inr ⟨_, rfl⟩)))
  | suback s => exact handleSuback_handled e s _
  | unsuback s => exact handleUnsuback_handled e s _
  | puback a => exact handlePuback_handled e a _
  | pubcomp a => exact handlePubcomp_handled e a _
  | pubrel a =>
    show Handled e _ (e.handlePubrel a)
    rw [handlePubrel_eq]
    exact ite_elim _ (fun _ => .refused _) (fun hb => .answered e.outEvents _ _ (by simpa using hb) rfl)
  | pubrec a => exact handlePubrec_handled e a _
  | _ => exact .refused _

theorem handlePacket_keeps (P : Engine → Prop) (e : Engine) (p : Packet) (h : P e)
    (hc : ∀ c, p = .connack c → P (e.handleConnack c).1)
    (hs : ∀ opId o c, stateBlocksAcks e.state = false → e.op? opId = some o → (resultFor o.packet (some c)).isSome = true →
      e.acks opId o → P (e.completeSuccess opId (some c)).1)
    (hm : ∀ opId o pid, stateBlocksAcks e.state = false → e.pendingPub.lookup pid = some opId → e.op? opId = some o →
      publishQos o.packet = some 2 → o.pubrel = none → P (e.withPubrel opId o pid))
    (ha : ∀ ev q a, stateBlocksAcks e.state = false → publishQos a = none →
      P (({ e with outEvents := ev, inQos2 := q } : Engine).withAnswer a))
    (hf : ∀ ev q pd, P { e with outEvents := ev, inQos2 := q, pingDeadline := pd }) : P (e.handlePacket p).1 := by
  have hx := handlePacket_handled e p
  generalize e.handlePacket p = x at hx
  cases hx with
  | connack c => exact hc c rfl
  | refused | stray => exact h
  | completes opId o c hb ho hres hw => exact hs opId o c hb ho hres hw
  | marked opId o pid hb hl ho hq hr => exact hm opId o pid hb hl ho hq hr
  | noted ev q pd r hr => exact hf ev q pd
  | answered ev q a hb ha' => exact ha ev q a hb ha'

def haltUnlessOk (x : Engine × Res) : Engine × Res :=
  if !x.2.isOk then ({ x.1 with state := .halted }, x.2) else (x.1, .ok)

theorem dispatchPacket_cases (e : Engine) (p : Packet) :
    (∃ x, validateInboundInternal p = .error x ∧ e.dispatchPacket p = ({ e with state := .halted }, okOrErr (.error x))) ∨
    e.dispatchPacket p = haltUnlessOk (e.handlePacket p) := by
  unfold Engine.dispatchPacket
  cases validateInboundInternal p with
  | error x => exact .inl ⟨x, rfl, rfl⟩
  | ok u =>
    unfold haltUnlessOk
    generalize e.handlePacket p = x
    exact .inr rfl

theorem handleOnePacket_cases (e : Engine) (p : Packet) :
    e.handleOnePacket p = (e, .err "InvalidInboundTopicAlias") ∨
    ∃ ir p', e.handleOnePacket p = ({ e with inRes := ir } : Engine).dispatchPacket p' := by
  unfold Engine.handleOnePacket
  cases p with
  | publish pb =>
    dsimp only
    cases e.inRes.resolve pb.topicAlias pb.topic with
    | none => exact .inl rfl
    | some x => exact .inr ⟨x.1, _, rfl⟩
  | _ => exact .inr ⟨e.inRes, _, rfl⟩

theorem handleOnePacket_keeps (P : Engine → Prop) (hh : ∀ e, P e → P { e with state := .halted })
    (hi : ∀ e ir, P e → P { e with inRes := ir }) (hp : ∀ e p, P e → P (e.handlePacket p).1)
    (e : Engine) (p : Packet) (h : P e) : P (e.handleOnePacket p).1 := by
  rcases handleOnePacket_cases e p with h1 | ⟨ir, p', h1⟩ <;> rw [h1]
  · exact h
  · rcases dispatchPacket_cases { e with inRes := ir } p' with ⟨x, _, h2⟩ | h2 <;> rw [h2]
    · exact hh _ (hi e ir h)
    · exact fst_ite P (fun _ => hh _ (hp _ p' (hi e ir h))) (fun _ => hp _ p' (hi e ir h))

/-- how `handle_network_event_incoming_data` ends: a decoding error behind the packets halts the engine -/
def dataEnd (err : Option DecErr) (x : Engine × Res) : Engine × Res :=
  if !x.2.isOk then x
  else match err with
    | some d => ({ x.1 with state := .halted }, .err (match d with | .decodingFailure => "DecodingFailure" | .unimplemented => "Unimplemented"))
    | none => (x.1, .ok)

/-- **`handle_network_event_incoming_data`, case by case** -/
theorem handleData_cases (e : Engine) (bs : Bytes) :
    ((e.state = .disconnected ∨ e.state = .halted) ∧ e.handleData bs = (e, .err "InternalStateError")) ∨
    (e.state = .pendingConnack ∧ e.connectUnsent = true ∧ e.handleData bs = ({ e with state := .halted }, .err "ProtocolError")) ∨
    (e.state ≠ .disconnected ∧ e.state ≠ .halted ∧ (e.state = .pendingConnack → e.connectUnsent = false) ∧
      ∃ d : FeedResult, e.handleData bs = dataEnd d.err (({ e with dec := d.dec } : Engine).handlePackets d.packets)) := by
  unfold Engine.handleData
  by_cases hs : (e.state == .disconnected || e.state == .halted) = true
  · rw [if_pos hs]
    exact .inl ⟨((Bool.or_eq_true _ _).mp hs).imp eq_of_beq eq_of_beq, rfl⟩
  rw [if_neg hs]
  by_cases hc : (e.state == .pendingConnack && e.connectUnsent) = true
  · rw [if_pos hc]
    exact .inr (.inl ⟨eq_of_beq ((Bool.and_eq_true _ _).mp hc).1, ((Bool.and_eq_true _ _).mp hc).2, rfl⟩)
  rw [if_neg hc]
  dsimp only
  refine .inr (.inr ⟨fun h => hs (by rw [h]; rfl), fun h => hs (by rw [h]; rfl), fun h => ?_,
    decodeBytes { version := e.cfg.version, maxSize := e.inboundMax } e.dec bs, ?_⟩)
  · cases hu : e.connectUnsent with
    | false => rfl
    | true => exact absurd (by rw [h, hu]; rfl) hc
  · unfold dataEnd
    generalize decodeBytes { version := e.cfg.version, maxSize := e.inboundMax } e.dec bs = d
    generalize ({ e with dec := d.dec } : Engine).handlePackets d.packets = x
    rfl

theorem dataEnd_keeps (P : Engine → Prop) (hh : ∀ e, P e → P { e with state := .halted }) (err : Option DecErr)
    (x : Engine × Res) (h : P x.1) : P (dataEnd err x).1 := by
  unfold dataEnd
  refine fst_ite P (fun _ => h) (fun _ => ?_)
  cases err with
  | some d => exact hh _ h
  | none => exact h

theorem handleData_keeps (P : Engine → Prop) (hh : ∀ x, P x → P { x with state := .halted })
    (hf : ∀ x ir d, P x → P { x with inRes := ir, dec := d }) (hp : ∀ x p, P x → P (x.handlePacket p).1)
    (e : Engine) (bs : Bytes) (h : P e) : P (e.handleData bs).1 := by
  rcases handleData_cases e bs with ⟨_, h1⟩ | ⟨_, _, h1⟩ | ⟨_, _, _, d, h1⟩ <;> rw [h1]
  · exact h
  · exact hh e h
  · exact dataEnd_keeps P hh _ _ (handlePackets_keeps P (handleOnePacket_keeps P hh (fun x ir => hf x ir x.dec) hp) _ _
      (hf e e.inRes d.dec h))

/-! ### the service path: dequeue, seating, encoding, filing, the loop -/

def Seat.eng : Seat → Engine
  | .ret e _ => e
  | .cont e => e
  | .encode e => e

theorem dequeue_cases (e : Engine) (all : Bool) :
    ((e.dequeue all).2 = none ∧ (e.dequeue all).1 = e) ∨
    (∃ id r, e.highQ = id :: r ∧ e.dequeue all = ({ e with highQ := r }, some id)) ∨
    (∃ id r, all = true ∧ e.highQ = [] ∧ e.resubQ = id :: r ∧ e.passesReceiveMaximum id = true ∧ e.dequeue all = ({ e with resubQ := r }, some id)) ∨
    (∃ id r, all = true ∧ e.highQ = [] ∧ e.resubQ = [] ∧ e.userQ = id :: r ∧ e.passesReceiveMaximum id = true ∧ e.dequeue all = ({ e with userQ := r }, some id)) := by
  generalize hx : e.dequeue all = x
  unfold Engine.dequeue at hx
  -- the head of a queue is taken if it passes flow control
  have pick : ∀ (id : Nat) (y : Engine), (if e.passesReceiveMaximum id = true then (y, some id) else (e, none)) = x →
      (x.2 = none ∧ x.1 = e) ∨ (e.passesReceiveMaximum id = true ∧ x = (y, some id)) := by
    intro id y h
    by_cases hp : e.passesReceiveMaximum id = true
    · rw [if_pos hp] at h; exact .inr ⟨hp, h.symm⟩
    · rw [if_neg hp] at h; subst h; exact .inl ⟨rfl, rfl⟩
  by_cases hw : e.pendingWrite = true
  · rw [if_pos hw] at hx; subst hx; exact .inl ⟨rfl, rfl⟩
  rw [if_neg hw] at hx
  cases hh : e.highQ with
  | cons id r => rw [hh] at hx; exact .inr (.inl ⟨id, r, rfl, hx.symm⟩)
  | nil =>
    rw [hh] at hx
    dsimp only at hx
    cases all with
    | false => subst hx; exact .inl ⟨rfl, rfl⟩
    | true =>
      rw [if_neg (by simp)] at hx
      by_cases hth : (e.slowStartThrottled && e.hasPendingAck) = true
      · rw [if_pos hth] at hx; subst hx; exact .inl ⟨rfl, rfl⟩
      rw [if_neg hth] at hx
      cases hr : e.resubQ with
      | cons id r =>
        rw [hr] at hx
        exact (pick id _ hx).imp_right fun a => .inr (.inl ⟨id, r, rfl, rfl, rfl, a.1, a.2⟩)
      | nil =>
        rw [hr] at hx
        dsimp only at hx
        cases hu : e.userQ with
        | cons id r =>
          rw [hu] at hx
          exact (pick id _ hx).imp_right fun a => .inr (.inr ⟨id, r, rfl, rfl, rfl, rfl, a.1, a.2⟩)
        | nil => rw [hu] at hx; subst hx; exact .inl ⟨rfl, rfl⟩

theorem dequeue_none {e : Engine} {all : Bool} (h : (e.dequeue all).2 = none) : (e.dequeue all).1 = e := by
  rcases dequeue_cases e all with ⟨_, he⟩ | ⟨_, _, _, he⟩ | ⟨_, _, _, _, _, _, he⟩ | ⟨_, _, _, _, _, _, _, he⟩
  · exact he
  all_goals rw [he] at h; cases h

theorem dequeue_shape (e : Engine) (all : Bool) :
    ∃ h r u, (e.dequeue all).1 = { e with highQ := h, resubQ := r, userQ := u } := by
  rcases dequeue_cases e all with ⟨_, he⟩ | ⟨_, _, _, he⟩ | ⟨_, _, _, _, _, _, he⟩ | ⟨_, _, _, _, _, _, _, he⟩ <;> rw [he] <;>
    exact ⟨_, _, _, rfl⟩

/-- `acquire_free_packet_id`: the cursor moves, and the free id the search finds, if any, is bound to the operation -/
theorem acquireFreeId_cases (e : Engine) (opId : Nat) : ∃ next,
    (acquireLoop e.allocated e.nextPacketId 65536 e.nextPacketId e.nextPacketId = (none, next) ∧
      e.acquireFreeId opId = ({ e with nextPacketId := next }, none)) ∨
    ∃ pid, acquireLoop e.allocated e.nextPacketId 65536 e.nextPacketId e.nextPacketId = (some pid, next) ∧
      e.acquireFreeId opId = ({ e with nextPacketId := next, allocated := mapInsert e.allocated pid opId }, some pid) := by
  unfold Engine.acquireFreeId
  generalize acquireLoop e.allocated e.nextPacketId 65536 e.nextPacketId e.nextPacketId = r
  obtain ⟨found, next⟩ := r
  cases found with
  | none => exact ⟨next, .inl ⟨rfl, rfl⟩⟩
  | some pid => exact ⟨next, .inr ⟨pid, rfl, rfl⟩⟩

/-- **`acquire_packet_id_for_operation`, case by case**: no such operation (the `unwrap` panic); nothing to do; every id is
    taken; or a free id is bound to the operation and written into its packet -/
theorem acquireIdFor_cases (e : Engine) (id : Nat) :
    (e.op? id = none ∧ e.acquireIdFor id = (e, .panic "unwrap_operation@acquire_packet_id_for_operation")) ∨
    (∃ o, e.op? id = some o ∧ (needsPacketId o.packet = true → o.packetId.isSome = true) ∧ e.acquireIdFor id = (e, .ok)) ∨
    (∃ o next, e.op? id = some o ∧ needsPacketId o.packet = true ∧ o.packetId = none ∧
      ((acquireLoop e.allocated e.nextPacketId 65536 e.nextPacketId e.nextPacketId = (none, next) ∧
          e.acquireIdFor id = ({ e with nextPacketId := next }, .err "InternalStateError")) ∨
       ∃ pid, acquireLoop e.allocated e.nextPacketId 65536 e.nextPacketId e.nextPacketId = (some pid, next) ∧
        e.acquireIdFor id =
         (({ e with nextPacketId := next, allocated := mapInsert e.allocated pid id } : Engine).setOp
           { o with packetId := some pid, packet := withPacketId o.packet pid }, .ok))) := by
  unfold Engine.acquireIdFor
  cases e.op? id with
  | none => exact .inl ⟨rfl, rfl⟩
  | some o =>
    simp only []
    by_cases h1 : o.packetId.isSome = true
    · rw [if_pos h1]; exact .inr (.inl ⟨o, rfl, fun _ => h1, rfl⟩)
    rw [if_neg h1]
    by_cases h2 : (!needsPacketId o.packet) = true
    · rw [if_pos h2]; exact .inr (.inl ⟨o, rfl, fun hn => (by rw [hn] at h2; cases h2), rfl⟩)
    rw [if_neg h2]
    obtain ⟨next, hf⟩ := acquireFreeId_cases e id
    refine .inr (.inr ⟨o, next, rfl, by simpa using h2, by simpa using h1, ?_⟩)
    rcases hf with ⟨hl, hf⟩ | ⟨pid, hl, hf⟩ <;> rw [hf]
    · exact .inl ⟨hl, rfl⟩
    · exact .inr ⟨pid, hl, rfl⟩

theorem acquireIdFor_frame (e : Engine) (id : Nat) :
    (e.acquireIdFor id).1.state = e.state ∧ (e.acquireIdFor id).1.pendingPub = e.pendingPub ∧ (e.acquireIdFor id).1.settings = e.settings ∧
    (e.acquireIdFor id).1.current = e.current ∧ (e.acquireIdFor id).1.nextOpId = e.nextOpId ∧
    (e.acquireIdFor id).1.userQ = e.userQ ∧ (e.acquireIdFor id).1.resubQ = e.resubQ := by
  rcases acquireIdFor_cases e id with ⟨_, h⟩ | ⟨_, _, _, h⟩ | ⟨_, _, _, _, _, ⟨_, h⟩ | ⟨_, _, h⟩⟩ <;> rw [h] <;>
    exact ⟨rfl, rfl, rfl, rfl, rfl, rfl, rfl⟩

theorem acquireIdFor_result (e : Engine) (id : Nat) (o : Op) (ho : e.op? id = some o) :
    (e.acquireIdFor id).2 = .ok ∨ (e.acquireIdFor id).2 = .err "InternalStateError" := by
  rcases acquireIdFor_cases e id with ⟨hn, _⟩ | ⟨_, _, _, h⟩ | ⟨_, _, _, _, _, ⟨_, h⟩ | ⟨_, _, h⟩⟩
  · rw [ho] at hn; cases hn
  · rw [h]; exact .inl rfl
  · rw [h]; exact .inr rfl
  · rw [h]; exact .inl rfl

/-- `start_operation_ack_timeout`: a deadline is recorded for a tracked operation that has an ack timeout -/
theorem startAckTimeout_cases (e : Engine) (id : Nat) :
    e.startAckTimeout id = e ∨
    ∃ o t, e.op? id = some o ∧ o.ackTimeout = some t ∧ e.startAckTimeout id = { e with timeouts := e.timeouts ++ [(id, e.now + t)] } := by
  unfold Engine.startAckTimeout
  cases ho : e.op? id with
  | none => exact .inl rfl
  | some o =>
    cases ht : o.ackTimeout with
    | none => simp only [Option.bind_some, ht]; exact .inl trivial
    | some t => simp only [Option.bind_some, ht]; exact .inr ⟨o, t, rfl, ht, rfl⟩

theorem startAckTimeout_shape (e : Engine) (id : Nat) : ∃ ts, e.startAckTimeout id = { e with timeouts := ts } := by
  rcases startAckTimeout_cases e id with h | ⟨_, _, _, _, h⟩ <;> rw [h]
  · exact ⟨e.timeouts, rfl⟩
  · exact ⟨_, rfl⟩

theorem armPingDeadline_shape (e : Engine) (o : Op) :
    ∃ pd np, e.armPingDeadline o = { e with pingDeadline := pd, nextPing := np } ∧ (e.nextPing.isSome = true → np.isSome = true) := by
  unfold Engine.armPingDeadline
  split
  · exact ⟨_, _, rfl, fun h => ite_keeps (fun x : Option Nat => x.isSome = true) rfl h⟩
  · exact ⟨_, _, rfl, fun h => h⟩

theorem fileWritten_cases (e : Engine) (id : Nat) (o : Op) :
    (isSubOrUnsub o.packet = true ∧ needsPacketId o.packet = true ∧ e.fileWritten id o = { e with pendingNonPub := mapInsert e.pendingNonPub (pktPid o.packet) id }) ∨
    (isAckedPublish o.packet = true ∧ needsPacketId o.packet = true ∧ e.fileWritten id o = { e with pendingPub := mapInsert e.pendingPub (pktPid o.packet) id }) ∨
    (needsPacketId o.packet = false ∧
      (e.fileWritten id o = { e with state := .pendingDisconnect, pendingWC := e.pendingWC ++ [id] } ∨
       e.fileWritten id o = { e with pendingWC := e.pendingWC ++ [id] })) := by
  unfold Engine.fileWritten
  cases o.packet with
  | subscribe s => exact .inl ⟨rfl, rfl, rfl⟩
  | unsubscribe s => exact .inl ⟨rfl, rfl, rfl⟩
  | publish p =>
    by_cases hq : p.qos = 0
    · exact .inr (.inr ⟨by simp [needsPacketId, hq], .inr (by simp only [hq, ↓reduceIte])⟩)
    · exact .inr (.inl ⟨by simp [isAckedPublish, hq], by simp [needsPacketId, hq], by simp only [hq, ↓reduceIte]; rfl⟩)
  | disconnect d => exact .inr (.inr ⟨rfl, .inl rfl⟩)
  | _ => exact .inr (.inr ⟨rfl, .inr rfl⟩)

theorem fileWritten_kinds (e : Engine) (id : Nat) (o : Op) :
    (needsPacketId o.packet = true ∧ ∃ pp pn, e.fileWritten id o = { e with pendingPub := pp, pendingNonPub := pn }) ∨
    (needsPacketId o.packet = false ∧ ∃ st, (st = e.state ∨ st = .pendingDisconnect) ∧
      e.fileWritten id o = { e with state := st, pendingWC := e.pendingWC ++ [id] }) := by
  rcases fileWritten_cases e id o with ⟨_, hn, hE⟩ | ⟨_, hn, hE⟩ | ⟨hn, hE | hE⟩ <;> rw [hE]
  · exact .inl ⟨hn, _, _, rfl⟩
  · exact .inl ⟨hn, _, _, rfl⟩
  · exact .inr ⟨hn, _, .inr rfl, rfl⟩
  · exact .inr ⟨hn, _, .inl rfl, rfl⟩

/-- **`on_current_operation_fully_written`**: the operation being written is filed, stamped with the time, given its ack
    timeout and, if it is a PINGREQ, the PINGRESP deadline; nothing is being written any more -/
theorem onFullyWritten_eq (e : Engine) {id : Nat} {o : Op} (hc : e.current = some id) (ho : e.op? id = some o) :
    e.onFullyWritten = some { (((e.fileWritten id o).setOp { o with pingBase := some e.now }).startAckTimeout id).armPingDeadline o with
      current := none } := by
  unfold Engine.onFullyWritten
  simp only [hc, ho]

theorem onFullyWritten_cases {e e3 : Engine} (hw : e.onFullyWritten = some e3) :
    ∃ id o, e.current = some id ∧ e.op? id = some o ∧
      e3 = { (((e.fileWritten id o).setOp { o with pingBase := some e.now }).startAckTimeout id).armPingDeadline o with current := none } := by
  cases hc : e.current with
  | none => unfold Engine.onFullyWritten at hw; rw [hc] at hw; cases hw
  | some id =>
    cases ho : e.op? id with
    | none => unfold Engine.onFullyWritten at hw; simp only [hc, ho] at hw; cases hw
    | some o => rw [onFullyWritten_eq e hc ho] at hw; exact ⟨id, o, rfl, ho, (Option.some.inj hw).symm⟩

/-- **`rejectCurrent`, case by case**: the operation fails (with the alias bindings possibly forgotten) and the attempt returns
    the failure's result, returns the validation failure (as it does when a CONNECT is refused), or the loop goes on -/
theorem rejectCurrent_cases (e4 : Engine) (id : Nat) (resolution : Resolution) (x : VErr) : ∃ res,
    (e4.rejectCurrent id resolution x =
        .ret (({ e4 with outRes := res, current := none } : Engine).completeFailure id x.name).1
          (({ e4 with outRes := res, current := none } : Engine).completeFailure id x.name).2 ∧
      (({ e4 with outRes := res, current := none } : Engine).completeFailure id x.name).2.isOk = false) ∨
    e4.rejectCurrent id resolution x =
      .ret (({ e4 with outRes := res, current := none } : Engine).completeFailure id x.name).1 (.err "PacketValidationFailure") ∨
    e4.rejectCurrent id resolution x = .cont (({ e4 with outRes := res, current := none } : Engine).completeFailure id x.name).1 := by
  unfold Engine.rejectCurrent
  generalize e4.outRes.reset _ = r0
  refine ⟨if resolution.alias.isSome then r0 else e4.outRes, ?_⟩
  rw [show (if resolution.alias.isSome then { e4 with outRes := r0 } else e4) =
    ({ e4 with outRes := if resolution.alias.isSome then r0 else e4.outRes } : Engine) by split <;> rfl]
  generalize (if resolution.alias.isSome then r0 else e4.outRes) = res
  dsimp only
  generalize Engine.completeFailure _ id x.name = y
  obtain ⟨e5, r5⟩ := y
  dsimp only
  by_cases h1 : (!r5.isOk) = true
  · rw [if_pos h1]; exact .inl ⟨rfl, by simpa using h1⟩
  rw [if_neg h1]
  by_cases h2 : isConnectOp e4 id = true
  · rw [if_pos h2]; exact .inr (.inl rfl)
  · rw [if_neg h2]; exact .inr (.inr rfl)

/-- **`prepareCurrent`, case by case**, with the resolver's answer named: validation asks for settings that are not there
    (the panic), rejects the packet, the encoder cannot be set up, or the operation is ready to be encoded -/
theorem prepareCurrent_cases (e3 : Engine) (id : Nat) (o : Op) : ∃ res resolution,
    e3.resolveOutbound (o.pubrel.getD o.packet) = (res, resolution) ∧
    ((({ e3 with outRes := res } : Engine).lastChance (o.pubrel.getD o.packet) resolution = .error .panicNoSettings ∧
        e3.prepareCurrent id o = .ret { e3 with outRes := res } (.panic "unwrap_negotiated_settings@validate")) ∨
     (∃ x, e3.prepareCurrent id o = ({ e3 with outRes := res } : Engine).rejectCurrent id resolution x) ∨
     (∃ x, e3.prepareCurrent id o = .ret { e3 with outRes := res } (encErrRes x)) ∨
     (∃ steps, packetSteps e3.cfg.version resolution (o.pubrel.getD o.packet) = .ok steps ∧
        e3.prepareCurrent id o = .encode { e3 with outRes := res, encSteps := steps })) := by
  unfold Engine.prepareCurrent
  simp only []
  generalize e3.resolveOutbound (o.pubrel.getD o.packet) = rr
  obtain ⟨res, resolution⟩ := rr
  refine ⟨res, resolution, rfl, ?_⟩
  simp only []
  cases hv : ({ e3 with outRes := res } : Engine).lastChance (o.pubrel.getD o.packet) resolution with
  | error x =>
    cases x with
    | panicNoSettings => exact .inl ⟨rfl, rfl⟩
    | _ => exact .inr (.inl ⟨_, rfl⟩)
  | ok u =>
    simp only []
    cases hps : packetSteps e3.cfg.version resolution (o.pubrel.getD o.packet) with
    | error x => exact .inr (.inr (.inl ⟨x, rfl⟩))
    | ok steps => exact .inr (.inr (.inr ⟨steps, rfl, rfl⟩))

/-- **`seatCurrent`, case by case**: an operation is being written already; nothing can be dequeued; the dequeued entry names
    no operation and is skipped; no packet id is left; or the operation is made current, gets its id and is prepared -/
theorem seatCurrent_cases (e : Engine) (all : Bool) :
    ((∃ c, e.current = some c) ∧ e.seatCurrent all = .encode e) ∨
    (e.current = none ∧
      (((e.dequeue all).2 = none ∧ e.seatCurrent all = .ret (e.dequeue all).1 .ok) ∨
       ∃ e1 id, e.dequeue all = (e1, some id) ∧
        ((e1.op? id = none ∧ e.seatCurrent all = .cont { e1 with current := none }) ∨
         ∃ o0, e1.op? id = some o0 ∧
          (((({ e1 with current := some id } : Engine).acquireIdFor id).2.isOk = false ∧
              e.seatCurrent all = .ret (({ e1 with current := some id } : Engine).acquireIdFor id).1
                (({ e1 with current := some id } : Engine).acquireIdFor id).2) ∨
           ((({ e1 with current := some id } : Engine).acquireIdFor id).2 = .ok ∧
            (((({ e1 with current := some id } : Engine).acquireIdFor id).1.op? id = none ∧
                e.seatCurrent all = .ret (({ e1 with current := some id } : Engine).acquireIdFor id).1
                  (.panic "unwrap_operation@service_queue_aux")) ∨
             ∃ o, (({ e1 with current := some id } : Engine).acquireIdFor id).1.op? id = some o ∧
                e.seatCurrent all = (({ e1 with current := some id } : Engine).acquireIdFor id).1.prepareCurrent id o)))))) := by
  unfold Engine.seatCurrent
  cases hc : e.current with
  | some c => exact .inl ⟨⟨c, rfl⟩, rfl⟩
  | none =>
    refine .inr ⟨rfl, ?_⟩
    simp only []
    generalize e.dequeue all = dq
    obtain ⟨e1, next⟩ := dq
    cases next with
    | none => exact .inl ⟨rfl, rfl⟩
    | some id =>
      refine .inr ⟨e1, id, rfl, ?_⟩
      simp only []
      rw [show ({ e1 with current := some id } : Engine).op? id = e1.op? id from rfl]
      cases ho : e1.op? id with
      | none => exact .inl ⟨rfl, rfl⟩
      | some o0 =>
        refine .inr ⟨o0, rfl, ?_⟩
        simp only [Option.isNone_some, Bool.false_eq_true, ↓reduceIte]
        generalize ({ e1 with current := some id } : Engine).acquireIdFor id = ar
        obtain ⟨e3, r⟩ := ar
        cases r with
        | ok =>
          refine .inr ⟨rfl, ?_⟩
          simp only [Res.isOk, Bool.not_true, Bool.false_eq_true, ↓reduceIte]
          cases e3.op? id with
          | none => exact .inl ⟨rfl, rfl⟩
          | some o => exact .inr ⟨o, rfl, rfl⟩
        | err k => exact .inl ⟨rfl, rfl⟩
        | panic k => exact .inl ⟨rfl, rfl⟩

/-- **the loop of `service_queue_aux`, turn by turn.**  `I` holds of the engine every turn starts from, `Q` of every way the
    loop ends (running out of fuel included).  A turn seats an operation (`seatCurrent`), then calls the encoder on it once:
    the three `unwrap` / buffer panics; the encoder fails; the packet is not finished and the loop ends; or it is complete,
    the operation is filed and the loop goes on -/
theorem serviceQueueAux_ind (all : Bool) (cap : Nat) (I : Engine → Prop) (Q : Engine × Res → Prop)
    (h0 : ∀ e, I e → Q (e, .ok))
    (hturn : ∀ e, I e → (e.state = .connected ∨ e.state = .pendingConnack) →
      match e.seatCurrent all with
      | .ret e1 r => Q (e1, r)
      | .cont e1 => I e1
      | .encode e1 =>
        (∀ s, (e1.current = none ∨ (∃ id, e1.current = some id ∧ e1.op? id = none) ∨ cap < 4) → Q (e1, .panic s)) ∧
        ∀ id o, e1.current = some id → e1.op? id = some o → 4 ≤ cap →
          ((e1.encodeCurrent cap).2 = true → Q ((e1.encodeCurrent cap).1, .err "EncodingFailure")) ∧
          ((e1.encodeCurrent cap).2 = false → (e1.encodeCurrent cap).1.encSteps.isEmpty = false → Q ((e1.encodeCurrent cap).1, .ok)) ∧
          ((e1.encodeCurrent cap).2 = false → (e1.encodeCurrent cap).1.encSteps.isEmpty = true →
            ∀ e3, (e1.encodeCurrent cap).1.onFullyWritten = some e3 → I e3)) :
    ∀ (fuel : Nat) (e : Engine), I e → Q (Engine.serviceQueueAux all cap fuel e) := by
  intro fuel
  induction fuel with
  | zero => intro e h; exact h0 e h
  | succ f ih =>
    intro e h
    rw [Engine.serviceQueueAux]
    by_cases hrun : (!(e.state == .pendingConnack || e.state == .connected)) = true
    · rw [if_pos hrun]; exact h0 e h
    rw [if_neg hrun]
    have ht := hturn e h (by cases hs : e.state <;> simp [hs] at hrun <;> simp)
    generalize e.seatCurrent all = seat at ht ⊢
    cases seat with
    | ret e1 r => exact ht
    | cont e1 => exact ih e1 ht
    | encode e1 =>
      obtain ⟨hp, hw⟩ := ht
      dsimp only
      cases hc : e1.current with
      | none => exact hp _ (.inl hc)
      | some id =>
        dsimp only
        cases ho : e1.op? id with
        | none => rw [if_pos (Option.isNone_none)]; exact hp _ (.inr (.inl ⟨id, hc, ho⟩))
        | some o =>
          rw [if_neg (by simp)]
          by_cases h2 : cap < 4
          · rw [if_pos h2]; exact hp _ (.inr (.inr h2))
          rw [if_neg h2]
          obtain ⟨hfail, hpart, hdone⟩ := hw id o hc ho (Nat.le_of_not_lt h2)
          have hfw := onFullyWritten_eq (e1.encodeCurrent cap).1 (id := id) (o := o) hc ho
          generalize e1.encodeCurrent cap = y at hfail hpart hdone hfw ⊢
          obtain ⟨e2, failed⟩ := y
          dsimp only
          cases failed with
          | true => rw [if_pos rfl]; exact hfail rfl
          | false =>
            rw [if_neg Bool.false_ne_true]
            by_cases h3 : e2.encSteps.isEmpty = true
            · rw [if_pos h3, hfw]; exact ih _ (hdone rfl h3 _ hfw)
            · rw [if_neg h3]; exact hpart rfl (by simpa using h3)

/-- how `service_queue` ends: what the call produced replaces the prefill, and a write is pending if it produced anything -/
def serviceQueueEnd (used : Nat) (x : Engine × Res) : Engine × Res :=
  ({ x.1 with outBytes := x.1.outBytes.drop used,
              pendingWrite := if (x.1.outBytes.drop used).isEmpty then x.1.pendingWrite else true }, x.2)

theorem serviceQueue_eq (e : Engine) (all : Bool) (cap prefill : Nat) :
    e.serviceQueue all cap prefill = serviceQueueEnd (min prefill cap)
      (Engine.serviceQueueAux all cap (2 * (e.highQ.length + e.resubQ.length + e.userQ.length) + 4)
        { e with outBytes := List.replicate (min prefill cap) 0 }) := by
  unfold Engine.serviceQueue serviceQueueEnd
  simp only []

/-- a piece of the service call, and the next one unless it returned an error -/
def andThen (x : Engine × Res) (f : Engine → Engine × Res) : Engine × Res := if !x.2.isOk then x else f x.1

theorem andThen_elim (P : Engine × Res → Prop) {x : Engine × Res} {f : Engine → Engine × Res}
    (h1 : x.2 ≠ .ok → P x) (h2 : x.2 = .ok → P (f x.1)) : P (andThen x f) := by
  unfold andThen
  cases hr : x.2 with
  | ok => exact h2 hr
  | err k => exact h1 (by rw [hr]; nofun)
  | panic k => exact h1 (by rw [hr]; nofun)

theorem queuePing_eq (e : Engine) :
    e.queuePing = some (if e.pingQueued then e else (e.createOp .pingreq none).1.queued e.nextOpId .high true) := by
  unfold Engine.queuePing
  by_cases h : e.pingQueued = true
  · rw [if_pos h, if_pos h]
  · rw [if_neg h, if_neg h]; exact enqueue_created e .pingreq none .high true

/-- **`service_keep_alive`, case by case**: nothing changes (no ping is due, or the PINGRESP deadline has passed and the
    call fails); or a PINGREQ waits in the queue, newly created unless one waited already, and, under a negotiated keep
    alive, the next ping is scheduled -/
theorem serviceKeepAlive_cases (e : Engine) :
    (e.serviceKeepAlive = (e, .ok) ∨ e.serviceKeepAlive = (e, .err "ConnectionClosed")) ∨
    ∃ e2, (e2 = e ∨ e2 = (e.createOp .pingreq none).1.queued e.nextOpId .high true) ∧
      ((e2.settings = none ∧ e.serviceKeepAlive = (e2, .panic "unwrap_settings@service_keep_alive")) ∨
       ∃ s, e2.settings = some s ∧ e.serviceKeepAlive =
        (if s.serverKeepAlive > 0 then { e2 with nextPing := some (e.now + s.serverKeepAlive * 1000) } else e2, .ok)) := by
  unfold Engine.serviceKeepAlive
  cases e.pingDeadline with
  | some d => exact .inl (ite_elim (fun x => x = (e, Res.ok) ∨ x = (e, .err "ConnectionClosed")) (fun _ => .inr rfl) (fun _ => .inl rfl))
  | none =>
    cases e.nextPing with
    | none => exact .inl (.inl rfl)
    | some np =>
      dsimp only
      by_cases hd : e.now ≥ np
      · rw [if_pos hd, queuePing_eq]
        refine .inr ⟨if e.pingQueued then e else (e.createOp .pingreq none).1.queued e.nextOpId .high true, ?_, ?_⟩
        · by_cases hp : e.pingQueued = true
          · rw [if_pos hp]; exact .inl rfl
          · rw [if_neg hp]; exact .inr rfl
        · dsimp only
          generalize (if e.pingQueued then e else (e.createOp .pingreq none).1.queued e.nextOpId .high true) = e2
          cases e2.settings with
          | none => exact .inl ⟨rfl, rfl⟩
          | some s => exact .inr ⟨s, rfl, rfl⟩
      · rw [if_neg hd]; exact .inl (.inl rfl)

theorem serviceKeepAlive_keeps (P : Engine → Prop) (e : Engine) (h : P e)
    (hq : P ((e.createOp .pingreq none).1.queued e.nextOpId .high true))
    (hn : ∀ e2 s t, P e2 → e2.settings = some s → P { e2 with nextPing := some t }) : P e.serviceKeepAlive.1 := by
  rcases serviceKeepAlive_cases e with (hE | hE) | ⟨e2, h2, ⟨_, hE⟩ | ⟨s, hs, hE⟩⟩ <;> rw [hE]
  · exact h
  · exact h
  · rcases h2 with rfl | rfl
    · exact h
    · exact hq
  · have h2 : P e2 := by
      rcases h2 with rfl | rfl
      · exact h
      · exact hq
    exact ite_keeps P (hn e2 s _ h2 hs) h2

theorem serviceCore_cases (e : Engine) (cap prefill : Nat) :
    (e.state = .disconnected ∧ e.serviceCore cap prefill = (e, .ok)) ∨
    (e.state = .halted ∧ e.serviceCore cap prefill = (e, .err "InternalStateError")) ∨
    (e.state = .pendingDisconnect ∧ e.serviceCore cap prefill = Engine.processAckTimeouts (e.timeouts.length + 1) e) ∨
    (e.state = .pendingConnack ∧
      ((e.connackDeadline = none ∧ e.serviceCore cap prefill = (e, .panic "unwrap_connack_timeout@service_pending_connack")) ∨
       ∃ d, e.connackDeadline = some d ∧
        e.serviceCore cap prefill = if e.now ≥ d then (e, .err "ConnectionEstablishmentFailure") else e.serviceQueue false cap prefill)) ∨
    (e.state = .connected ∧
      e.serviceCore cap prefill = andThen (Engine.processAckTimeouts (e.timeouts.length + 1) e) fun e0 =>
        andThen e0.serviceKeepAlive fun ea => andThen (ea.serviceQueue true cap prefill) fun eb =>
          Engine.processAckTimeouts (eb.timeouts.length + 1) eb) := by
  unfold Engine.serviceCore
  cases e.state with
  | disconnected => exact .inl ⟨rfl, rfl⟩
  | halted => exact .inr (.inl ⟨rfl, rfl⟩)
  | pendingDisconnect => exact .inr (.inr (.inl ⟨rfl, rfl⟩))
  | pendingConnack =>
    refine .inr (.inr (.inr (.inl ⟨rfl, ?_⟩)))
    cases e.connackDeadline with
    | none => exact .inl ⟨rfl, rfl⟩
    | some d => exact .inr ⟨d, rfl, rfl⟩
  | connected =>
    refine .inr (.inr (.inr (.inr ⟨rfl, ?_⟩)))
    unfold andThen
    simp only []

/-- **`service`**: an error of the work by state halts the engine -/
theorem service_cases (e : Engine) (cap prefill : Nat) :
    ((∀ k, (e.serviceCore cap prefill).2 ≠ .err k) ∧ e.service cap prefill = e.serviceCore cap prefill) ∨
    ∃ k, (e.serviceCore cap prefill).2 = .err k ∧
      e.service cap prefill = ({ (e.serviceCore cap prefill).1 with state := .halted }, .err k) := by
  unfold Engine.service
  generalize e.serviceCore cap prefill = x
  obtain ⟨e1, r⟩ := x
  cases r with
  | ok => exact .inl ⟨nofun, rfl⟩
  | panic s => exact .inl ⟨nofun, rfl⟩
  | err k => exact .inr ⟨k, rfl, rfl⟩

/-! ### write completion, the step function -/

theorem haltOnErr_snd (x : Engine × Res) : (haltOnErr x).2 = x.2 := by
  unfold haltOnErr
  split <;> rfl

theorem haltOnErr_keeps (P : Engine → Prop) (hhalt : ∀ e, P e → P { e with state := .halted }) (x : Engine × Res) (h : P x.1) :
    P (haltOnErr x).1 := by
  unfold haltOnErr
  split
  · exact hhalt _ h
  · exact h

theorem handleWriteCompletion_elim (P : Engine × Res → Prop) (e : Engine) (hidle : P (e, .err "InternalStateError"))
    (hhalt : e.state ≠ .disconnected → P ({ e with state := .halted }, .err "InternalStateError"))
    (hdone : e.state ≠ .disconnected → P ({ e with pendingWrite := false, pendingWC := [] }.succeedAll e.pendingWC)) :
    P e.handleWriteCompletion := by
  unfold Engine.handleWriteCompletion
  refine ite_elim P (fun _ => hidle) fun hs => ?_
  have hd : e.state ≠ .disconnected := fun hd => hs (by rw [hd]; rfl)
  exact ite_keeps P (hhalt hd) (hdone hd)

/-- a step is `begin`, one handler, `finish`, and a network handler's error halts the engine; `Q` is what the handlers start from -/
theorem step_keeps (Q P : Engine → Prop) {e : Engine} (ev : Event) (hbegin : ∀ t, Q (e.begin t))
    (hfinish : ∀ x r, P x → P (x.finish r).1) (hhalt : ∀ x, P x → P { x with state := .halted })
    (huser : ∀ b u, Q b → P (b.handleUser u).1) (hopened : ∀ b d, Q b → P (b.handleOpened d).1)
    (hclosed : ∀ b, Q b → P b.handleClosed.1) (hdata : ∀ b bs, Q b → P (b.handleData bs).1)
    (hwritten : ∀ b, Q b → P b.handleWriteCompletion.1)
    (hservice : ∀ b t cap pre, ev = .service t cap pre → Q b → P (b.service cap pre).1)
    (hquery : ∀ b, Q b → P b) (hreset : ∀ b, Q b → P b.reset) : P (step e ev).1 := by
  cases ev with
  | user t u => exact hfinish _ _ (huser _ u (hbegin t))
  | opened t d => exact hfinish _ _ (haltOnErr_keeps P hhalt _ (hopened _ d (hbegin t)))
  | closed t => exact hfinish _ _ (haltOnErr_keeps P hhalt _ (hclosed _ (hbegin t)))
  | data t bs => exact hfinish _ _ (haltOnErr_keeps P hhalt _ (hdata _ bs (hbegin t)))
  | writeDone t => exact hfinish _ _ (haltOnErr_keeps P hhalt _ (hwritten _ (hbegin t)))
  | service t cap pre => exact hfinish _ _ (hservice _ t cap pre rfl (hbegin t))
  | queryNext t => exact hquery _ (hbegin t)
  | reset t => exact hfinish _ _ (hreset _ (hbegin t))

end GV
