/- Proofs/EngineClose.lean — the exclusivity layer (`Extra`, Proofs/EngineExcl.lean) across
   `handle_network_event_connection_closed`, and with that across every history (`step_inv2`, `run_inv2`, `inv2_after`).

   The handler moves every operation in flight back to one of the two ordinary queues; that the queues stay duplicate-free
   is proved by counting.  `Engine.loc` lists the places where an operation waits (the high-priority queue aside), under the invariant it names no operation
   twice (`loc_nodup`), and no stage of the handler lets an id occur in it more often than before (`Sp`, Proofs/Counting.lean).
   The clauses about PUBRELs and the offline-queue policy speak of the operations themselves: for these every operation the
   handler leaves is traced back to the one it was before (`Lin`). -/
import GV.Proofs.EngineExcl
namespace GV

/-- the current operation, unless the pending-publish table already accounts for it (a PUBREL being written) -/
def Engine.curL (e : Engine) : List Nat :=
  match e.current with
  | some id => if id ∈ vals e.pendingPub then [] else [id]
  | none => []

/-- where operations wait, high-priority queue aside -/
def Engine.loc (e : Engine) : List Nat :=
  e.userQ ++ e.resubQ ++ e.pendingWC ++ vals e.pendingPub ++ vals e.pendingNonPub ++ e.curL

theorem curL_of_none {e : Engine} (hc : e.current = none) : e.curL = [] := by
  unfold Engine.curL; rw [hc]

theorem mem_curL {e : Engine} {x : Nat} : x ∈ e.curL ↔ e.current = some x ∧ x ∉ vals e.pendingPub := by
  unfold Engine.curL
  cases e.current with
  | none => simp
  | some id =>
    simp only [Option.some.injEq]
    split
    · rename_i hp
      exact ⟨nofun, fun hx => absurd (hx.1 ▸ hp) hx.2⟩
    · rename_i hp
      rw [List.mem_singleton]
      exact ⟨fun hx => ⟨hx.symm, hx ▸ hp⟩, fun hx => hx.1.symm⟩

theorem curL_nodup (e : Engine) : e.curL.Nodup := by
  unfold Engine.curL
  cases e.current with
  | none => exact List.nodup_nil
  | some id =>
    simp only []
    split
    · exact List.nodup_nil
    · exact List.pairwise_singleton _ _

theorem curL_count_le (e : Engine) (x : Nat) : e.curL.count x ≤ 1 := List.nodup_iff_count.mp (curL_nodup e) x

theorem vals_nodup (m : List (Nat × Nat)) (hs : KeysSorted m) (ops : List (Nat × Op))
    (h : ∀ pid id, m.lookup pid = some id → ∃ o, ops.lookup id = some o ∧ o.packetId = some pid) : (vals m).Nodup := by
  refine List.pairwise_map.mpr ((List.pairwise_map.mp hs).imp_of_mem ?_)
  intro a b ha hb hlt heq
  -- two entries with the same value have the same key, hence are the same entry
  obtain ⟨o1, ho1, hp1⟩ := h a.1 a.2 (lookup_of_mem hs ha)
  obtain ⟨o2, ho2, hp2⟩ := h b.1 b.2 (lookup_of_mem hs hb)
  rw [heq, ho2] at ho1
  cases ho1
  rw [hp2] at hp1
  rw [Option.some.inj hp1] at hlt
  exact Nat.lt_irrefl _ hlt

/-- **Every operation sits in one place**: the queues, the written-but-unflushed list, the two pending tables and the
    current slot (where the pending-publish table does not already account for it) name no operation twice. -/
theorem loc_nodup (e : Engine) (hb : Big [] [] e.view) (h : Extra false [] e.view) : e.loc.Nodup := by
  have hp : (vals e.pendingPub).Nodup := vals_nodup e.pendingPub hb.tps e.ops (fun pid id hl => by
    obtain ⟨o, ho, hpid, _⟩ := hb.tp pid id hl; exact ⟨o, ho, hpid⟩)
  have hn : (vals e.pendingNonPub).Nodup := vals_nodup e.pendingNonPub hb.tns e.ops (fun pid id hl => by
    obtain ⟨o, ho, hpid, _⟩ := hb.tn pid id hl; exact ⟨o, ho, hpid⟩)
  -- a publish waiting for its acknowledgement is in no other table or list
  have pub : ∀ x ∈ vals e.pendingPub, x ∉ e.pendingWC ∧ x ∉ vals e.pendingNonPub := fun x hx =>
    let ⟨k, hk⟩ := lookup_of_mem_vals hb.tps hx
    (pendingPub_elsewhere hb h k x hk).2.2
  -- what was written and not flushed carries no packet id, a subscribe or unsubscribe does
  have wcn : ∀ x ∈ e.pendingWC, x ∉ vals e.pendingNonPub := by
    intro x hm hv
    obtain ⟨k, hk⟩ := lookup_of_mem_vals hb.tns hv
    obtain ⟨o, ho, _, hkind⟩ := hb.tn k x hk
    have := hb.wc x hm o ho
    have hneed : needsPacketId o.packet = true := by
      cases hpk : o.packet <;> simp [isSubOrUnsub, hpk] at hkind <;> rfl
    rw [hneed] at this; cases this
  unfold Engine.loc
  refine nodup_append_of (nodup_append_of (nodup_append_of (nodup_append_of h.x5.1 h.x9 ?_) hp ?_) hn ?_) (curL_nodup e) ?_
  · exact fun x hx => (h.x2 x hx).1
  · exact fun x hx hv => (List.mem_append.mp hx).elim (fun a => (h.x2 x a).2.1 hv) (fun a => (pub x hv).1 a)
  · intro x hx hv
    rcases List.mem_append.mp hx with a | a
    · exact (List.mem_append.mp a).elim (fun b => (h.x2 x b).2.2 hv) (fun b => wcn x b hv)
    · exact (pub x a).2 hv
  · intro x hx hv
    obtain ⟨hc, hnp⟩ := mem_curL.mp hv
    rcases List.mem_append.mp hx with a | a
    · rcases List.mem_append.mp a with b | b
      · exact (List.mem_append.mp b).elim (h.current_not_queued hc) (h.x1a rfl x hc)
      · exact hnp b
    · exact h.x1b rfl x hc a

/-! ### how the steps of the close handler move operations around -/

theorem loc_of_fields (a b : Engine) (h1 : a.userQ = b.userQ) (h2 : a.resubQ = b.resubQ) (h3 : a.pendingWC = b.pendingWC)
    (h4 : a.pendingPub = b.pendingPub) (h5 : a.pendingNonPub = b.pendingNonPub) (h6 : a.current = b.current) : a.loc = b.loc := by
  unfold Engine.loc Engine.curL
  rw [h1, h2, h3, h4, h5, h6]

theorem Remarked.loc {e e' : Engine} (h : Remarked e e') : e'.loc = e.loc := by
  obtain ⟨g, -, rfl⟩ := h
  exact loc_of_fields _ _ rfl rfl rfl rfl rfl rfl

theorem loc_clear_current (e e' : Engine) (h1 : e'.userQ = e.userQ) (h2 : e'.resubQ = e.resubQ) (h3 : e'.pendingWC = e.pendingWC)
    (h4 : (vals e'.pendingPub).Sublist (vals e.pendingPub)) (h5 : (vals e'.pendingNonPub).Sublist (vals e.pendingNonPub))
    (h6 : e'.current = none) : Sp e'.loc e.loc := by
  intro x
  have a := h4.count_le x
  have b := h5.count_le x
  unfold Engine.loc
  rw [h1, h2, h3, curL_of_none h6]
  simp only [List.count_append, List.count_nil]
  omega

theorem Erases.loc {e e' : Engine} {id : Nat} (he : Erases e id e') :
    e'.userQ = e.userQ ∧ e'.resubQ = e.resubQ ∧ e'.pendingWC = e.pendingWC ∧ (vals e'.pendingPub).Sublist (vals e.pendingPub) ∧
    (vals e'.pendingNonPub).Sublist (vals e.pendingNonPub) ∧ e'.current = e.current := by
  rcases he with ⟨_, rfl⟩ | ⟨o, s', _, hv, _⟩
  · exact ⟨rfl, rfl, rfl, List.Sublist.refl _, List.Sublist.refl _, rfl⟩
  · refine ⟨congrArg View.userQ hv, congrArg View.resubQ hv, congrArg View.pendingWC hv, ?_, ?_, congrArg View.current hv⟩
    · rw [show e'.pendingPub = releaseFrom e.pendingPub o.packetId from congrArg View.pendingPub hv]
      exact vals_releaseFrom_sublist _ _
    · rw [show e'.pendingNonPub = releaseFrom e.pendingNonPub o.packetId from congrArg View.pendingNonPub hv]
      exact vals_releaseFrom_sublist _ _

/-- the operation being written rejoins one of the two ordinary queues -/
theorem loc_requeue (e : Engine) (id : Nat) (hc : e.current = some id) (hnp : id ∉ vals e.pendingPub) (u r : List Nat)
    (h : Sp (u ++ r) (id :: (e.userQ ++ e.resubQ))) : Sp ({ e with userQ := u, resubQ := r, current := none } : Engine).loc e.loc := by
  intro x
  have := h x
  unfold Engine.loc
  rw [show e.curL = [id] by unfold Engine.curL; rw [hc]; exact if_neg hnp]
  show List.count x (u ++ r ++ e.pendingWC ++ vals e.pendingPub ++ vals e.pendingNonPub ++ []) ≤ _
  simp only [List.count_append, List.count_nil, List.count_cons] at this ⊢
  omega

/-- an operation that waits in the pending-publish table is a publish, filed there under the packet id it carries -/
theorem pendingPub_filed {v : View} (hb : Big [] [] v) {id : Nat} {o : Op} (ho : v.ops.lookup id = some o)
    (hm : id ∈ vals v.pendingPub) : ∃ p, o.packet = .publish p ∧ v.pendingPub.lookup p.packetId = some id := by
  obtain ⟨k, hk⟩ := lookup_of_mem_vals hb.tps hm
  obtain ⟨o2, ho2, hpid, hk2⟩ := hb.tp k id hk
  rw [ho] at ho2; cases ho2
  have h4 := hb.p4 id o k ho hpid
  cases hp : o.packet with
  | publish p => rw [hp] at h4; exact ⟨p, rfl, by rw [show p.packetId = k from h4]; exact hk⟩
  | _ => rw [hp] at hk2; cases hk2

/-- `apply_connection_closed_to_current_operation`: the operation that was being written goes back to a queue (or fails),
    nothing gains an occurrence -/
theorem closeCurrent_loc (e : Engine) (hok : e.core.Ok) (hb : Big [] [] e.view)
    (hx1c : ∀ id, e.current = some id → id ∈ vals e.pendingPub → ∀ o, e.ops.lookup id = some o → o.pubrel.isSome = true)
    (hx8 : ∀ id o, e.ops.lookup id = some o → o.pubrel.isSome = true → publishQos o.packet = some 2) :
    Sp e.closeCurrent.1.loc e.loc := by
  have hidle : ∀ q, Sp ({ e with highQ := q, current := none } : Engine).loc e.loc := fun _ =>
    loc_clear_current e _ rfl rfl rfl (List.Sublist.refl _) (List.Sublist.refl _) rfl
  cases hc : e.current with
  | none => rw [closeCurrent_idle e (.inl hc)]; exact hidle e.highQ
  | some id =>
    cases ho : e.op? id with
    | none => rw [closeCurrent_idle e (.inr ⟨id, hc, ho⟩)]; exact hidle e.highQ
    | some o =>
      -- joining a queue adds an occurrence, so the pending-publish table must not hold the operation already
      have pend := pendingPub_filed hb (show e.view.ops.lookup id = some o from ho)
      rcases closeCurrent_cases e hc ho with ⟨h1, _, hu⟩ | ⟨p, hp, hd, ⟨_, h1⟩ | ⟨hl, h1⟩⟩ | ⟨p, _, _, _, h1⟩ | ⟨k, hk⟩
      · rw [h1]
        refine loc_requeue e id hc (fun hm => ?_) (id :: e.userQ) e.resubQ (Sp.refl _)
        obtain ⟨p, hp, _⟩ := pend hm
        have hpr := hx1c id hc hm o ho
        have hq := hx8 id o ho hpr
        rw [hp] at hq
        exact (hu p hp).2 ⟨Option.some.inj hq, hpr⟩
      · rw [h1]; exact hidle e.highQ
      · rw [h1]
        refine loc_requeue e id hc (fun hm => ?_) e.userQ (id :: e.resubQ) (Sp.of_perm List.perm_middle)
        obtain ⟨q, hq, hlq⟩ := pend hm
        rw [hp] at hq; cases hq; exact hl hlq
      · rw [h1]; exact hidle _
      · rw [closeCurrent_failed e hok ho hk]
        obtain ⟨f1, f2, f3, f4, f5, -⟩ := (completeFailure_erases e id k).loc
        exact loc_clear_current e _ f1 f2 f3 f4 f5 rfl

def LocBelow (e0 : Engine) (e : Engine) : Prop := Sp e.loc e0.loc ∧ e.current = none

theorem locBelow_refl (e : Engine) (hc : e.current = none) : LocBelow e e := ⟨Sp.refl _, hc⟩

theorem completeFailure_locBelow (e0 e : Engine) (id : Nat) (k : String) (h : LocBelow e0 e) : LocBelow e0 (e.completeFailure id k).1 := by
  obtain ⟨f1, f2, f3, f4, f5, f6⟩ := (completeFailure_erases e id k).loc
  exact ⟨(loc_clear_current e _ f1 f2 f3 f4 f5 (f6.trans h.2)).trans h.1, f6.trans h.2⟩

/-- close handler, part 1: what was written but not flushed and passes the policy goes to the back of the user queue, the
    rest fails -/
theorem closeFailStage_loc (e3 : Engine) (hc : e3.current = none) : LocBelow e3 e3.closeFailStage.1 := by
  refine closeFailStage_keeps (LocBelow e3) (fun x id k => completeFailure_locBelow e3 x id k)
    (fun x hx => ⟨(Sp.of_eq (loc_of_fields _ x rfl rfl rfl rfl rfl rfl)).trans hx.1, hx.2⟩) (fun x hx => ⟨?_, hx.2⟩) e3
    (locBelow_refl e3 hc)
  refine Sp.trans ?_ hx.1
  have hle := fun y => (partition_sublist ({ x with pendingWC := [] } : Engine) x.pendingWC).1.count_le y
  generalize (({ x with pendingWC := [] } : Engine).partitionByPolicy x.pendingWC).1 = l at hle ⊢
  intro y
  have := hle y
  show List.count y ((x.userQ ++ l) ++ x.resubQ ++ [] ++ vals x.pendingPub ++ vals x.pendingNonPub ++ x.curL) ≤
    List.count y (x.userQ ++ x.resubQ ++ x.pendingWC ++ vals x.pendingPub ++ vals x.pendingNonPub ++ x.curL)
  simp only [List.count_append, List.count_nil]
  omega

structure PubFold (r en : Engine) (l : List Nat) : Prop where
  resubQ : r.resubQ = en.resubQ ++ l
  userQ : r.userQ = en.userQ
  pendingWC : r.pendingWC = en.pendingWC
  pendingPub : r.pendingPub = en.pendingPub
  pendingNonPub : r.pendingNonPub = en.pendingNonPub
  current : r.current = en.current

theorem pubFold_fields : ∀ (l : List Nat) (en : Engine), PubFold (l.foldl requeuePubStep en) en l := by
  intro l
  induction l with
  | nil => intro en; exact ⟨by simp, rfl, rfl, rfl, rfl, rfl⟩
  | cons x xs ih =>
    intro en
    have h := ih (requeuePubStep en x)
    have s0 := setDupFlag_same en x true
    simp only [List.foldl]
    exact ⟨by rw [h.resubQ]; show (en.resubQ ++ [x]) ++ xs = _; simp, h.userQ.trans s0.userQ, h.pendingWC.trans s0.pendingWC,
      h.pendingPub.trans s0.pendingPub, h.pendingNonPub.trans s0.pendingNonPub, h.current.trans s0.current⟩

structure SubFold (r en : Engine) (l : List Nat) : Prop where
  userQ : r.userQ = l.reverse ++ en.userQ
  resubQ : r.resubQ = en.resubQ
  pendingWC : r.pendingWC = en.pendingWC
  pendingPub : r.pendingPub = en.pendingPub
  pendingNonPub : r.pendingNonPub = en.pendingNonPub
  current : r.current = en.current

theorem subFold_fields : ∀ (l : List Nat) (en : Engine), SubFold (l.foldl requeueSubStep en) en l := by
  intro l
  induction l with
  | nil => intro en; exact ⟨by simp, rfl, rfl, rfl, rfl, rfl⟩
  | cons x xs ih =>
    intro en
    have h := ih (requeueSubStep en x)
    simp only [List.foldl]
    exact ⟨by rw [h.userQ]; show xs.reverse ++ (x :: en.userQ) = _; simp, h.resubQ, h.pendingWC, h.pendingPub, h.pendingNonPub, h.current⟩

/-- close handler, part 2: afterwards everything waits in one of the two queues -/
theorem closeRequeueStage_loc (e9 : Engine) (hc : e9.current = none) :
    Sp (e9.closeRequeueStage.1.userQ ++ e9.closeRequeueStage.1.resubQ) e9.loc := by
  rw [closeRequeueStage_eq]
  have f10 : PubFold e9.requeuePubs { e9 with pendingPub := [] } (vals e9.pendingPub) := pubFold_fields _ _
  have f11 : SubFold e9.requeuePubs.requeueSubs { e9.requeuePubs with pendingNonPub := [] } (vals e9.requeuePubs.pendingNonPub) :=
    subFold_fields _ _
  have hu11 : e9.requeuePubs.requeueSubs.userQ = (vals e9.pendingNonPub).reverse ++ e9.userQ := by
    rw [f11.userQ, f10.pendingNonPub]; exact congrArg _ f10.userQ
  have hr11 : e9.requeuePubs.requeueSubs.resubQ = e9.resubQ ++ vals e9.pendingPub := f11.resubQ.trans f10.resubQ
  generalize e9.requeuePubs.requeueSubs = e11 at hu11 hr11 ⊢
  obtain ⟨pr, x13, hpr, hx13, heq⟩ := filterUserQ_cases e11
  rw [heq]
  have hle := fun x => (partition_sublist ({ e11 with userQ := [] } : Engine) e11.userQ).1.count_le x
  have hsame := failAll_same "OfflineQueuePolicyFailed" pr.2 { e11 with userQ := [] }
  rw [← hpr] at hle
  rw [← hx13] at hsame
  show Sp ((x13.1.userQ ++ pr.1) ++ x13.1.resubQ) e9.loc
  rw [hsame.userQ, hsame.resubQ]
  intro x
  have := hle x
  rw [hu11] at this
  unfold Engine.loc
  rw [curL_of_none hc]
  show List.count x (([] ++ pr.1) ++ e11.resubQ) ≤ _
  rw [hr11]
  simp only [List.count_append, List.count_nil, List.nil_append, List.count_reverse] at this ⊢
  omega

/-! ### lineage of the operation table across the close handler -/

/-- every operation of `b` is the operation of `a` with the same id, up to marks no rule of the invariant reads (DUP flag,
    slow-start mark, interruption count); the configuration is the same -/
def Lin (a b : Engine) : Prop :=
  b.cfg = a.cfg ∧ ∀ id o', b.ops.lookup id = some o' → ∃ o, a.ops.lookup id = some o ∧ o'.pubrel = o.pubrel ∧
    publishQos o'.packet = publishQos o.packet ∧ ∀ pol, passesPolicy o'.packet pol = passesPolicy o.packet pol

theorem Lin.refl (a : Engine) : Lin a a := ⟨rfl, fun _ o h => ⟨o, h, rfl, rfl, fun _ => rfl⟩⟩

theorem Lin.trans {a b c : Engine} (h1 : Lin a b) (h2 : Lin b c) : Lin a c := by
  refine ⟨h2.1.trans h1.1, fun id o'' h => ?_⟩
  obtain ⟨o', ho', p1, q1, r1⟩ := h2.2 id o'' h
  obtain ⟨o, ho, p2, q2, r2⟩ := h1.2 id o' ho'
  exact ⟨o, ho, p1.trans p2, q1.trans q2, fun pol => (r1 pol).trans (r2 pol)⟩

theorem lin_of_sub {a b : Engine} (hc : b.cfg = a.cfg) (h : OpsSub a b) : Lin a b :=
  ⟨hc, fun id o hl => ⟨o, h id o hl, rfl, rfl, fun _ => rfl⟩⟩

theorem Lin.frame {a b : Engine} (hc : b.cfg = a.cfg) (ho : b.ops = a.ops) : Lin a b :=
  lin_of_sub hc (fun _ _ h => ho ▸ h)

theorem completeFailure_lin (e0 e : Engine) (id : Nat) (k : String) (h : Lin e0 e) : Lin e0 (e.completeFailure id k).1 :=
  h.trans (lin_of_sub (completeFailure_same e id k).cfg (completeFailure_sub e id k))

theorem Remarked.lin {e e' : Engine} (h : Remarked e e') : Lin e e' := by
  obtain ⟨g, hg, rfl⟩ := h
  refine ⟨rfl, fun id o' h => ?_⟩
  have h' : (e.ops.map (fun x => (x.1, g x.1 x.2))).lookup id = some o' := h
  rw [lookup_mapOps] at h'
  cases hy : e.ops.lookup id with
  | none => rw [hy] at h'; cases h'
  | some y =>
    rw [hy] at h'
    simp only [Option.map_some, Option.some.injEq] at h'
    obtain ⟨s, n, hs⟩ := hg id y
    rw [← h', hs]
    exact ⟨y, rfl, rfl, rfl, fun _ => rfl⟩

theorem closeCurrent_lin (e : Engine) : Lin e e.closeCurrent.1 :=
  closeCurrent_keeps (Lin e) (completeFailure_lin e) (fun _ _ _ _ hx => hx.trans (Lin.frame rfl rfl)) e (Lin.refl e)

theorem closeFailStage_lin (e3 : Engine) : Lin e3 e3.closeFailStage.1 :=
  closeFailStage_keeps (Lin e3) (completeFailure_lin e3) (fun _ hx => hx.trans (Lin.frame rfl rfl))
    (fun _ hx => hx.trans (Lin.frame rfl rfl)) e3 (Lin.refl e3)

/-- lineage together with the first-layer invariant it needs to go on -/
def LinP (a b : Engine) : Prop := a.core.Ok → b.core.Ok ∧ Lin a b

theorem LinP.trans {a b c : Engine} (h1 : LinP a b) (h2 : LinP b c) : LinP a c := fun hok =>
  let ⟨hb, l1⟩ := h1 hok
  let ⟨hc, l2⟩ := h2 hb
  ⟨hc, l1.trans l2⟩

theorem linP_of (a b : Engine) (hp : Pres a b) (hl : Lin a b) : LinP a b := fun hok => ⟨(hp hok).1, hl⟩

theorem setDupFlag_linP (en : Engine) (id : Nat) (v : Bool) : LinP en (en.setDupFlag id v) := by
  intro hok
  refine ⟨((setDupFlag_pres en id v) hok).1, ?_⟩
  rcases setDupFlag_cases en id v with ⟨_, he⟩ | ⟨o, ho, he⟩ <;> rw [he]
  · exact .refl en
  · refine ⟨rfl, fun j x' h => ?_⟩
    rcases setOp_lookup en hok id o { o with packet := setDup o.packet v } ho rfl j x' h with ⟨rfl, rfl⟩ | ⟨_, hx⟩
    · exact ⟨o, ho, rfl, (passesPolicy_setDup o.packet v .preserveAll).2, fun pol => (passesPolicy_setDup o.packet v pol).1⟩
    · exact ⟨x', hx, rfl, rfl, fun _ => rfl⟩

/-- close handler, part 2: operation lineage, and what ends in the user queue passes the offline policy -/
theorem closeRequeueStage_lin (e9 : Engine) (hok : e9.core.Ok) :
    Lin e9 e9.closeRequeueStage.1 ∧
    ∀ id ∈ e9.closeRequeueStage.1.userQ, ∀ o, e9.closeRequeueStage.1.ops.lookup id = some o → passesPolicy o.packet e9.cfg.policy = true := by
  -- lineage needs the first layer for the DUP flag (`setOp` on a sorted table), so it is carried along as `LinP`
  have fr : ∀ {a b : Engine}, b.core = a.core → b.cfg = a.cfg → b.ops = a.ops → LinP a b := fun hcore hc ho =>
    linP_of _ _ (Pres.of_core_eq hcore) (Lin.frame hc ho)
  have l10 : LinP e9 e9.requeuePubs :=
    foldl_preserves requeuePubStep (LinP e9)
      (fun en id hx => (hx.trans (setDupFlag_linP en id true)).trans (fr rfl rfl rfl)) _ _ (fr rfl rfl rfl)
  have l11 : LinP e9 e9.requeuePubs.requeueSubs :=
    foldl_preserves requeueSubStep (LinP e9) (fun en _ hx => hx.trans (fr rfl rfl rfl)) _ _ (l10.trans (fr rfl rfl rfl))
  obtain ⟨_, l11⟩ := l11 hok
  rw [closeRequeueStage_eq]
  generalize e9.requeuePubs.requeueSubs = e11 at l11 ⊢
  obtain ⟨pr, x13, hpr, hx13, heq⟩ := filterUserQ_cases e11
  rw [heq]
  have hpass := fun id => (partitionByPolicy_mem ({ e11 with userQ := [] } : Engine) e11.userQ id).1.mp
  have l13 : Lin e11 (({ e11 with userQ := [] } : Engine).failAll pr.2 "OfflineQueuePolicyFailed").1 :=
    failAll_keeps (Lin e11) _ _ (fun x id _ => completeFailure_lin e11 x id _) _ (Lin.frame rfl rfl)
  have hu13 := (failAll_same "OfflineQueuePolicyFailed" pr.2 ({ e11 with userQ := [] } : Engine)).userQ
  rw [← hpr] at hpass
  rw [← hx13] at l13 hu13
  refine ⟨l11.trans (l13.trans (Lin.frame rfl rfl)), fun id hid o ho => ?_⟩
  have hid' : id ∈ pr.1 := by
    have : id ∈ x13.1.userQ ++ pr.1 := hid
    rwa [hu13] at this
  obtain ⟨_, o12, ho12, hp⟩ := hpass id hid'
  obtain ⟨o', ho', _, _, hpol⟩ := l13.2 id o ho
  rw [show e11.ops.lookup id = some o12 from ho12] at ho'
  cases ho'
  rw [hpol, ← l11.1]
  exact hp

/-! ### the close handler -/

/-- **`handle_network_event_connection_closed` keeps the second layer**: afterwards every operation waits in exactly one of
    the two queues, and what waits in the user queue passes the offline policy. -/
theorem handleClosedCore_extra (e : Engine) (hinv : Inv e) (hx : Extra false [] e.view) : Extra false [] e.handleClosedCore.1.view := by
  by_cases hs : e.state = .disconnected
  · rw [handleClosedCore_idle hs]; exact hx
  obtain ⟨e1, e2, e3, hx1, hss, hui, heq, hok3, -, hst3, hc3, ht3⟩ := handleClosedCore_mid e hinv hs
  obtain ⟨hok0, h0⟩ := closing_ok e hinv
  rw [heq]
  -- stage by stage: no id gains an occurrence in `loc`, and the operations keep their lineage
  have c1 := closeCurrent_loc e.closing hok0 h0 (hx.x1c rfl) hx.x8
  have l1 := closeCurrent_lin e.closing
  rw [hx1] at c1 l1
  have m2 := slowStartInit_remarked hss
  have m3 := updateInterrupted_remarked hui
  have c3 : Sp e3.loc e.loc := by rw [m3.loc, m2.loc]; exact c1
  have l3 : Lin e e3 := ((Lin.trans (Lin.frame rfl rfl) l1).trans m2.lin).trans m3.lin
  have q9 := closeFailStage_quiet e3 hc3 ht3
  have c9 := closeFailStage_loc e3 hc3
  have l9 := l3.trans (closeFailStage_lin e3)
  have hok9 := (closeFailStage_pres e3 hok3).1
  have hst9 := closeFailStage_state e3 hst3
  generalize e3.closeFailStage.1 = e9 at q9 c9 l9 hok9 hst9 ⊢
  have q14 := closeRequeueStage_quiet e9 q9
  have hst14 := closeRequeueStage_state e9 hst9
  have c14 := (closeRequeueStage_loc e9 q9.current).trans (c9.1.trans c3)
  have l14 := closeRequeueStage_lin e9 hok9
  generalize e9.closeRequeueStage.1 = e14 at q14 hst14 c14 l14 ⊢
  -- what is left is Disconnected with everything but the two queues empty
  exact Extra.idle q14.1.current q14.1.highQ q14.1.pendingWC q14.2.1 q14.2.2 (by rw [show e14.view.state = .disconnected from hst14]; decide)
    (c14.nodup (loc_nodup e hinv.2.1 hx))
    (fun id o' ho' hp => by
      obtain ⟨o, ho, p1, p2, _⟩ := (l9.trans l14.1).2 id o' ho'
      rw [p2]; exact hx.x8 id o ho (by rw [← p1]; exact hp))
    (fun _ id hi o ho => by
      show passesPolicy o.packet e14.cfg.policy = true
      rw [show e14.cfg = e9.cfg from l14.1.1]; exact l14.2 id hi o ho)

/-- ... and so does the whole handler, which applies the elapsed ack timeouts first -/
theorem handleClosed_extra (e : Engine) (hinv : Inv e) (hx : Extra false [] e.view) : Extra false [] e.handleClosed.1.view := by
  rw [handleClosed_fst]
  refine ite_elim (fun x : Engine => Extra false [] x.view) (fun _ => hx) (fun hd => ?_)
  have hnd : e.state ≠ .disconnected := by simpa using hd
  refine handleClosedCore_extra _ ((processAckTimeouts_hk (e.timeouts.length + 1) e).inv hinv hnd).1 ?_
  by_cases hpc : e.state = .pendingConnack
  · -- during the handshake there are no timeout records, so the pass does nothing
    have hnt : e.timeouts = [] := by simpa [Engine.view] using (hinv.2.1.h1 hpc).2.2.2.2
    rw [processAckTimeouts_nil _ e hnt]; exact hx
  · exact processAckTimeouts_extra _ e hx hpc

/-! ### every history -/

theorem new_extra (cfg : Config) : Extra false [] (Engine.new cfg).view :=
  Extra.idle rfl rfl rfl rfl rfl (fun hh => by cases hh) List.nodup_nil (fun id o ho => by cases ho) (fun _ id hi => by cases hi)

/-- **One step keeps both layers of the invariant**, whatever the event -/
theorem step_inv2 (e : Engine) (ev : Event) (hinv : Inv2 e) : Inv2 (step e ev).1 :=
  ⟨step_inv e ev hinv.1, step_keeps Inv2 (fun x => Extra false [] x.view) ev hinv.begin (fun _ _ h => h) (fun _ => Extra.halt)
    (fun b u h => handleUser_extra b u h.1 h.2) (fun b d h => handleOpened_extra b d h.1 h.2)
    (fun b h => handleClosed_extra b h.1 h.2) (fun b bs h => handleData_extra b bs h.1 h.2)
    (fun b h => handleWriteCompletion_extra b h.2) (fun b _ cap pre _ h => service_extra b cap pre h.1 h.2)
    (fun _ h => h.2) (fun b _ => reset_extra b)⟩

/-- **Every history.**  Both layers of the engine's invariant hold after any sequence of events. -/
theorem run_inv2 : ∀ (evs : List Event) (e : Engine), Inv2 e → Inv2 (runEvents e evs).1 :=
  fun evs e => runEvents_keeps Inv2 evs e (fun e ev _ => step_inv2 e ev)

theorem inv2_after (cfg : Config) (evs : List Event) : Inv2 (runEvents (Engine.new cfg) evs).1 :=
  run_inv2 evs _ ⟨new_inv cfg, new_extra cfg⟩

end GV
