/- Proofs/EngineState.lean — which functions can change the protocol state -/
import GV.Proofs.EngineStages
namespace GV

theorem completeFailure_state (e : Engine) (id : Nat) (k : String) (h : e.state ≠ .pendingDisconnect) :
    (e.completeFailure id k).1.state = e.state := by
  cases ho : e.op? id with
  | none => rw [completeFailure_none k ho]
  | some o =>
    obtain ⟨sc, st, oc, heq, hst⟩ := completeFailure_shape e id k ho
    rw [heq]
    rcases hst with rfl | ⟨hp, _⟩
    · rfl
    · exact absurd hp h

theorem processAckTimeouts_state (fuel : Nat) (e : Engine) (h : e.state ≠ .pendingDisconnect) :
    (Engine.processAckTimeouts fuel e).1.state = e.state :=
  processAckTimeouts_keeps (·.state = e.state)
    (fun x id d _ _ hx => (completeFailure_state { x with timeouts := x.timeouts.erase (id, d) } id _ (hx ▸ h)).trans hx) fuel e rfl

theorem failAll_state (ids : List Nat) (k : String) (e : Engine) (h : e.state ≠ .pendingDisconnect) :
    (e.failAll ids k).1.state = e.state :=
  failAll_keeps (·.state = e.state) k ids (fun x id _ hx => (completeFailure_state x id k (hx ▸ h)).trans hx) e rfl

theorem reset_fields (e : Engine) :
    (e.reset.state = .halted ∨ e.reset.state = .disconnected) ∧ e.reset.ops = [] ∧ e.reset.userQ = [] ∧ e.reset.resubQ = [] ∧
    e.reset.highQ = [] ∧ e.reset.current = none ∧ e.reset.allocated = [] ∧ e.reset.pendingPub = [] ∧ e.reset.pendingNonPub = [] ∧
    e.reset.pendingWC = [] ∧ e.reset.timeouts = [] ∧ e.reset.nextPacketId = 1 := by
  have h0 : ∀ e0 : Engine, e0.state = .halted ∨ e0.state = .disconnected →
      (e0.failAll (e0.ops.map (·.1)) "ClientClosed").1.state = .halted ∨ (e0.failAll (e0.ops.map (·.1)) "ClientClosed").1.state = .disconnected := by
    intro e0 hs
    rw [failAll_state _ _ e0 (by rcases hs with a | a <;> (rw [a]; decide))]
    exact hs
  unfold Engine.reset
  exact ⟨h0 _ (ite_elim (fun x : Engine => x.state = .halted ∨ x.state = .disconnected) (fun _ => .inl rfl) (fun h => .inr (by simpa using h))),
    rfl, rfl, rfl, rfl, rfl, rfl, rfl, rfl, rfl, rfl, rfl⟩

/-! ### the close handler -/

theorem closeCurrent_state (e : Engine) (h : e.state ≠ .pendingDisconnect) : e.closeCurrent.1.state = e.state :=
  closeCurrent_keeps (·.state = e.state) (fun x id k hx => (completeFailure_state x id k (hx ▸ h)).trans hx)
    (fun _ _ _ _ hx => hx) e rfl

theorem Remarked.state {e e' : Engine} (h : Remarked e e') : e'.state = e.state := by
  obtain ⟨g, -, rfl⟩ := h; rfl

theorem completeFailure_disconnected (e : Engine) (id : Nat) (k : String) (h : e.state = .disconnected) :
    (e.completeFailure id k).1.state = .disconnected :=
  (completeFailure_state e id k (by rw [h]; decide)).trans h

theorem closeFailStage_state (e3 : Engine) (h3 : e3.state = .disconnected) : e3.closeFailStage.1.state = .disconnected :=
  closeFailStage_keeps (·.state = .disconnected) completeFailure_disconnected (fun _ h => h) (fun _ h => h) e3 h3

theorem closeRequeueStage_state (e9 : Engine) (h9 : e9.state = .disconnected) : e9.closeRequeueStage.1.state = .disconnected :=
  closeRequeueStage_keeps (·.state = .disconnected) completeFailure_disconnected
    (fun e id h => (setDupFlag_same e id true).state.trans h) (fun _ _ _ _ _ h => h) e9 h9

/-- no hypothesis on the state: a Disconnected engine is returned as it is -/
theorem handleClosedCore_state (e : Engine) : e.handleClosedCore.1.state = .disconnected :=
  handleClosedCore_keeps (·.state = .disconnected) e (fun h => h) (fun _ => rfl)
    (fun x hx => (closeCurrent_state x (by rw [hx]; decide)).trans hx)
    (fun _ _ h hx => h.state.trans hx)
    closeFailStage_state closeRequeueStage_state

/-- **From whatever other state (Halted by an error included), the connection-closed event leaves the engine
    Disconnected** (C11, `close_recovers`). -/
theorem handleClosed_state (e : Engine) (h : e.state ≠ .disconnected) : e.handleClosed.1.state = .disconnected := by
  rw [handleClosed_fst, if_neg (by simpa using h)]
  exact handleClosedCore_state _

/-! ### CONNACK -/

theorem sessionRequeueStage_state (e : Engine) : e.sessionRequeueStage.state = e.state :=
  sessionRequeueStage_keeps (·.state = e.state) (fun x id h => (unbind_same x id).state.trans h)
    (fun x id h => (clearQos2_same x id).state.trans h) (fun _ _ _ h => h) e rfl

theorem sessionLostStage_state (e : Engine) (h : e.state ≠ .pendingDisconnect) : e.sessionLostStage.1.state = e.state :=
  sessionLostStage_keeps (·.state = e.state) (fun x id k hx => (completeFailure_state x id k (hx ▸ h)).trans hx)
    (fun x id hx => (setDupFlag_same x id false).state.trans hx) (fun _ _ _ _ _ hx => hx) e rfl

theorem applySessionPresent_state (e : Engine) (present : Bool) (h : e.state ≠ .pendingDisconnect) :
    (e.applySessionPresent present).1.state = e.state :=
  applySessionPresent_keeps (·.state = e.state) (fun x hx => (sessionLostStage_state x (hx ▸ h)).trans hx)
    (fun x hx => (sessionRequeueStage_state x).trans hx) e present rfl

theorem handleConnack_state (e : Engine) (c : Connack) :
    (e.handleConnack c).1.state = .connected ∨ ((e.handleConnack c).1.state = e.state ∧ (e.handleConnack c).2.isOk = false) := by
  rcases handleConnack_cases e c with ⟨_, heq⟩ | ⟨x, _, heq⟩ | ⟨_, _, heq⟩ | ⟨_, _, _, heq⟩ <;> rw [heq]
  · exact .inr ⟨rfl, rfl⟩
  · exact .inr ⟨rfl, by cases x <;> rfl⟩
  · exact .inr ⟨rfl, rfl⟩
  · have hs : (e.connackEntered c).initSlowStart.state = .connected := by rw [initSlowStart_shape]; rfl
    have h3 := (applySessionPresent_state _ c.sessionPresent (by rw [hs]; decide)).trans hs
    unfold connackEnd
    exact .inl (fst_ite (fun y : Engine => y.state = .connected) (fun _ => h3) (fun _ => h3))

end GV
