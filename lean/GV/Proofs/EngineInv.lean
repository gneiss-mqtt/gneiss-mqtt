/- Proofs/EngineInv.lean — the operation-table invariant of the engine model (`Core.Ok`) and the conservation law for user
   operations (`Pres`), proved function by function up to every entry point, one step (`step_conserves`) and every history
   (`run_conserves`, which Props/C01.lean reads off).

   `Core` is the part of the engine state the invariant speaks about; a function that leaves the core alone
   preserves everything at once (`Pres.of_core_eq`). -/
import GV.Proofs.OpsMap
import GV.Proofs.EngineState
namespace GV

def isUserKind : Packet → Bool
  | .publish _ | .subscribe _ | .unsubscribe _ => true
  | _ => false

def isSubUnsub : Packet → Bool
  | .subscribe _ | .unsubscribe _ => true
  | _ => false

/-- user operation indices still tracked by the operation table -/
def trackedIdx (ops : List (Nat × Op)) : List Nat := ops.filterMap (fun x => x.2.user.map (·.1))

structure Core where
  ops : List (Nat × Op)
  nextOpId : Nat
  pendingWC : List Nat
  drain : Bool
  connected : Bool
  slowCount : Nat
  emitted : List Nat
  timeouts : List (Nat × Nat)

def Engine.core (e : Engine) : Core :=
  ⟨e.ops, e.nextOpId, e.pendingWC, e.cfg.drainOneAtATime, e.state == .connected, e.slowStartCount, e.outComps.map (·.1), e.timeouts⟩

/-- the conserved quantity: user operations still tracked, plus those resolved in the step in progress -/
def Core.Q (c : Core) : List Nat := trackedIdx c.ops ++ c.emitted

structure Core.Ok (c : Core) : Prop where
  sorted : KeysSorted c.ops
  ids : ∀ x ∈ c.ops, x.2.id = x.1 ∧ x.1 < c.nextOpId
  userKind : ∀ x ∈ c.ops, x.2.user.isSome = true → isUserKind x.2.packet = true
  wc : ∀ id ∈ c.pendingWC, id < c.nextOpId ∧ ∀ o, c.ops.lookup id = some o → isSubUnsub o.packet = false
  slow : c.drain = true → c.connected = true → c.slowCount = (c.ops.map (·.2.slowStart)).sum
  /-- an ack-timeout record names an operation number that has been handed out, and as long as that operation is tracked it
      is one that was submitted with an ack timeout (and is not a QoS 0 publish) -/
  to : ∀ x ∈ c.timeouts, x.1 < c.nextOpId ∧ ∀ o, c.ops.lookup x.1 = some o → o.ackTimeout.isSome = true

theorem Core.Ok.id_eq {c : Core} (h : c.Ok) {id : Nat} {o : Op} (ho : c.ops.lookup id = some o) : o.id = id :=
  (h.ids _ (mem_of_lookup ho)).1

/-- between `e` and `e'` nothing is resolved silently: the invariant is kept and the conserved quantity is the same multiset -/
def Pres (e e' : Engine) : Prop := e.core.Ok → e'.core.Ok ∧ e'.core.Q.Perm e.core.Q

theorem Pres.refl (e : Engine) : Pres e e := fun h => ⟨h, List.Perm.refl _⟩

theorem Pres.trans {a b c : Engine} (h1 : Pres a b) (h2 : Pres b c) : Pres a c := fun h =>
  let ⟨hb, pb⟩ := h1 h
  let ⟨hc, pc⟩ := h2 hb
  ⟨hc, pc.trans pb⟩

theorem Pres.of_core_eq {e e' : Engine} (h : e'.core = e.core) : Pres e e' := fun hk => by
  rw [h]; exact ⟨hk, List.Perm.refl _⟩

theorem Pres.ite {e : Engine} {c : Prop} [Decidable c] {x y : Engine × Res} (hx : c → Pres e x.1) (hy : ¬c → Pres e y.1) :
    Pres e (if c then x else y).1 :=
  ite_elim (fun z : Engine × Res => Pres e z.1) hx hy

/-- the connected flag is dropped, written-but-unflushed operations and ack-timeout records are forgotten -/
theorem Pres.of_core_drop {e e' : Engine} (b : Bool) (wc' : List Nat) (t : List (Nat × Nat))
    (h : e'.core = { e.core with connected := b, pendingWC := wc', timeouts := t }) (hb : b = true → e.core.connected = true)
    (hsub : ∀ x ∈ wc', x ∈ e.core.pendingWC) (ht : ∀ x ∈ t, x ∈ e.core.timeouts) : Pres e e' := fun hk => by
  rw [h]
  exact ⟨⟨hk.sorted, hk.ids, hk.userKind, fun i hi => hk.wc i (hsub i hi), fun hd hc => hk.slow hd (hb hc),
    fun x hx => hk.to x (ht x hx)⟩, List.Perm.refl _⟩

theorem Pres.of_core_conn {e e' : Engine} (b : Bool) (h : e'.core = { e.core with connected := b })
    (hb : b = true → e.core.connected = true) : Pres e e' :=
  Pres.of_core_drop b _ _ h hb (fun _ hx => hx) (fun _ hx => hx)

theorem Pres.of_core_conn_to {e e' : Engine} (b : Bool) (t : List (Nat × Nat)) (h : e'.core = { e.core with connected := b, timeouts := t })
    (hb : b = true → e.core.connected = true) (ht : ∀ x ∈ t, x ∈ e.core.timeouts) : Pres e e' :=
  Pres.of_core_drop b _ t h hb (fun _ hx => hx) ht

theorem Pres.of_core_wc {e e' : Engine} (wc' : List Nat) (h : e'.core = { e.core with pendingWC := wc' })
    (hsub : ∀ x ∈ wc', x ∈ e.core.pendingWC) : Pres e e' :=
  Pres.of_core_drop _ wc' _ h (fun hx => hx) hsub (fun _ hx => hx)

theorem Pres.of_core_wc_to {e e' : Engine} (wc' : List Nat) (t : List (Nat × Nat)) (h : e'.core = { e.core with pendingWC := wc', timeouts := t })
    (hsub : ∀ x ∈ wc', x ∈ e.core.pendingWC) (ht : ∀ x ∈ t, x ∈ e.core.timeouts) : Pres e e' :=
  Pres.of_core_drop _ wc' t h (fun hx => hx) hsub ht

theorem Pres.halt {e e' : Engine} (h : Pres e e') : Pres e { e' with state := .halted } :=
  h.trans (Pres.of_core_conn false rfl (by simp))

/-! ### how the operation table changes: erase, replace, create -/

theorem trackedIdx_perm {a b : List (Nat × Op)} (h : a.Perm b) : (trackedIdx a).Perm (trackedIdx b) :=
  List.Perm.filterMap _ h

/-- what the slow-start count and the conserved quantity see of a table in which one entry is singled out -/
theorem perm_cons_sums {ops rest : List (Nat × Op)} {k : Nat} {o : Op} (h : ops.Perm ((k, o) :: rest)) :
    (ops.map (·.2.slowStart)).sum = o.slowStart + (rest.map (·.2.slowStart)).sum ∧
    (trackedIdx ops).Perm ((o.user.map (·.1)).toList ++ trackedIdx rest) := by
  refine ⟨(h.map _).sum_nat.trans List.sum_cons, (trackedIdx_perm h).trans ?_⟩
  cases hu : o.user <;> simp [trackedIdx, hu]

theorem ackTimeout_congr {o o' : Op} (hp : isQos0Publish o'.packet = isQos0Publish o.packet) (hu : o'.user = o.user) :
    o'.ackTimeout = o.ackTimeout := by
  unfold Op.ackTimeout; rw [hp, hu]

/-- the clauses about written-but-unflushed operations and about ack-timeout records hold of any table whose entries below
    the counter come from the old one with kind and ack timeout unchanged -/
theorem Core.Ok.wc_to {c : Core} (h : c.Ok) {ops' : List (Nat × Op)} {n' : Nat} (hn : c.nextOpId ≤ n')
    (hl : ∀ i o', i < c.nextOpId → ops'.lookup i = some o' →
      ∃ o, c.ops.lookup i = some o ∧ isSubUnsub o'.packet = isSubUnsub o.packet ∧ o'.ackTimeout = o.ackTimeout) :
    (∀ id ∈ c.pendingWC, id < n' ∧ ∀ o, ops'.lookup id = some o → isSubUnsub o.packet = false) ∧
    (∀ x ∈ c.timeouts, x.1 < n' ∧ ∀ o, ops'.lookup x.1 = some o → o.ackTimeout.isSome = true) := by
  constructor
  · intro i hi
    refine ⟨Nat.lt_of_lt_of_le (h.wc i hi).1 hn, fun o' ho' => ?_⟩
    obtain ⟨o, ho, hk, _⟩ := hl i o' (h.wc i hi).1 ho'
    rw [hk]; exact (h.wc i hi).2 o ho
  · intro x hx
    refine ⟨Nat.lt_of_lt_of_le (h.to x hx).1 hn, fun o' ho' => ?_⟩
    obtain ⟨o, ho, _, ht⟩ := hl x.1 o' (h.to x hx).1 ho'
    rw [ht]; exact (h.to x hx).2 o ho

/-- removing a tracked operation, optionally handing its index to the user; the slow-start count follows -/
theorem Core.Ok.erase {c : Core} (h : c.Ok) {id : Nat} {o : Op} (ho : c.ops.lookup id = some o) (sc : Nat)
    (hsc : c.drain = true → c.connected = true → sc = c.slowCount - o.slowStart) (conn : Bool) (hconn : conn = true → c.connected = true) :
    let c' : Core := { c with ops := mapErase c.ops id, slowCount := sc, connected := conn,
                              emitted := c.emitted ++ (o.user.map (·.1)).toList }
    c'.Ok ∧ c'.Q.Perm c.Q := by
  intro c'
  obtain ⟨hsum, ht⟩ := perm_cons_sums (perm_cons_mapErase h.sorted ho)
  obtain ⟨hwc, hto⟩ := h.wc_to (Nat.le_refl _) (fun i o' _ ho' => ⟨o', (lookup_mapErase_some ho').2, rfl, rfl⟩)
  refine ⟨⟨h.sorted.mapErase id, fun x hx => h.ids x (mem_mapErase.mp hx).1, fun x hx => h.userKind x (mem_mapErase.mp hx).1,
    hwc, fun hd hcn => ?_, hto⟩, ?_⟩
  · show sc = ((mapErase c.ops id).map (·.2.slowStart)).sum
    rw [hsc hd (hconn hcn), h.slow hd (hconn hcn), hsum]; omega
  · show (trackedIdx (mapErase c.ops id) ++ (c.emitted ++ (o.user.map (·.1)).toList)).Perm (trackedIdx c.ops ++ c.emitted)
    refine List.Perm.trans ?_ (ht.symm.append_right c.emitted)
    rw [← List.append_assoc, List.append_assoc (o.user.map (·.1)).toList]
    exact List.perm_append_comm

/-- replacing a tracked operation by one with the same identity, owner, kind and slow-start mark -/
theorem Core.Ok.replace {c : Core} (h : c.Ok) {o0 o : Op} (ho : c.ops.lookup o.id = some o0)
    (hu : o.user = o0.user) (hk : isUserKind o.packet = isUserKind o0.packet) (hsu : isSubUnsub o.packet = isSubUnsub o0.packet)
    (hss : o.slowStart = o0.slowStart) (hat : o.ackTimeout = o0.ackTimeout) :
    let c' : Core := { c with ops := mapInsert c.ops o.id o }
    c'.Ok ∧ c'.Q.Perm c.Q := by
  intro c'
  obtain ⟨e1, t1⟩ := perm_cons_sums (perm_cons_mapErase h.sorted ho)
  obtain ⟨e2, t2⟩ := perm_cons_sums (mapInsert_perm_of_some h.sorted o ho)
  have hin0 := mem_of_lookup ho
  obtain ⟨hwc, hto⟩ := h.wc_to (ops' := mapInsert c.ops o.id o) (Nat.le_refl _) (fun i o' _ ho' => by
    rcases lookup_mapInsert_some ho' with ⟨rfl, rfl⟩ | ⟨_, h'⟩
    · exact ⟨o0, ho, hsu, hat⟩
    · exact ⟨o', h', rfl, rfl⟩)
  refine ⟨⟨h.sorted.mapInsert _ _, ?_, ?_, hwc, fun hd hcn => ?_, hto⟩, ?_⟩
  · exact forall_mem_mapInsert ⟨rfl, (h.ids _ hin0).2⟩ h.ids
  · exact forall_mem_mapInsert (fun hsome => by rw [hk]; exact h.userKind _ hin0 (by rw [← hu]; exact hsome)) h.userKind
  · show c.slowCount = ((mapInsert c.ops o.id o).map (·.2.slowStart)).sum
    rw [h.slow hd hcn, e1, e2, hss]
  · show (trackedIdx (mapInsert c.ops o.id o) ++ c.emitted).Perm (trackedIdx c.ops ++ c.emitted)
    rw [hu] at t2
    exact (t2.trans t1.symm).append_right _

/-- adding a fresh operation (`create_operation`) -/
theorem Core.Ok.create {c : Core} (h : c.Ok) (p : Packet) (user : Option (Nat × Option Nat))
    (hk : user.isSome = true → isUserKind p = true) :
    let c' : Core := { c with ops := mapInsert c.ops c.nextOpId { id := c.nextOpId, packet := p, user := user }, nextOpId := c.nextOpId + 1 }
    c'.Ok ∧ c'.Q.Perm ((user.map (·.1)).toList ++ c.Q) := by
  intro c'
  have hnone : c.ops.lookup c.nextOpId = none :=
    List.lookup_eq_none_iff.mpr fun y hy => bne_iff_ne.mpr (Nat.ne_of_gt (h.ids y hy).2)
  obtain ⟨e1, t⟩ := perm_cons_sums (mapInsert_perm_of_none ({ id := c.nextOpId, packet := p, user := user } : Op) hnone)
  obtain ⟨hwc, hto⟩ := h.wc_to (ops' := mapInsert c.ops c.nextOpId { id := c.nextOpId, packet := p, user := user })
    (Nat.le_succ _) (fun i o' hi ho' => by
      rcases lookup_mapInsert_some ho' with ⟨rfl, _⟩ | ⟨_, h'⟩
      · exact absurd hi (Nat.lt_irrefl _)
      · exact ⟨o', h', rfl, rfl⟩)
  refine ⟨⟨h.sorted.mapInsert _ _, ?_, ?_, hwc, fun hd hcn => ?_, hto⟩, ?_⟩
  · exact forall_mem_mapInsert ⟨rfl, Nat.lt_succ_self _⟩ fun x hx => ⟨(h.ids x hx).1, Nat.lt_succ_of_lt (h.ids x hx).2⟩
  · exact forall_mem_mapInsert hk h.userKind
  · show c.slowCount = ((mapInsert c.ops c.nextOpId _).map (·.2.slowStart)).sum
    rw [h.slow hd hcn, e1]; exact (Nat.zero_add _).symm
  · show (trackedIdx (mapInsert c.ops c.nextOpId _) ++ c.emitted).Perm ((user.map (·.1)).toList ++ (trackedIdx c.ops ++ c.emitted))
    rw [← List.append_assoc]
    exact t.append_right _

/-! ### completion -/

theorem connected_flag_halted (s : PState) : ((if s == .pendingDisconnect then PState.halted else s) == .connected) = (s == .connected) := by
  cases s <;> rfl

theorem Core.Ok.slow_ge {c : Core} (h : c.Ok) {id : Nat} {o : Op} (ho : c.ops.lookup id = some o) :
    c.drain = true → c.connected = true → c.slowCount ≥ o.slowStart := by
  intro hd hcn
  rw [h.slow hd hcn, (perm_cons_sums (perm_cons_mapErase h.sorted ho)).1]
  exact Nat.le_add_right _ _

theorem releaseIds_fields (e : Engine) (o : Op) :
    (e.releaseIds o).core = e.core ∧ (e.releaseIds o).cfg = e.cfg ∧ (e.releaseIds o).state = e.state ∧
    (e.releaseIds o).slowStartCount = e.slowStartCount := by
  unfold Engine.releaseIds; split <;> exact ⟨rfl, rfl, rfl, rfl⟩

theorem Core.Ok.disconnect_unowned {c : Core} (hok : c.Ok) {id : Nat} {o : Op} (ho : c.ops.lookup id = some o) :
    isDisconnect o.packet = true → o.user = none := by
  intro hd
  have hk : isUserKind o.packet = false := by
    cases hp : o.packet <;> simp [hp, isDisconnect] at hd <;> rfl
  cases hu : o.user with
  | none => rfl
  | some u => have := hok.userKind _ (mem_of_lookup ho) (by simp [hu]); simp [hk] at this

/-- a completion as the core sees it: the operation goes, the count follows, the engine may halt, the owner's index is
    handed out (`l` is what the completion appended to the completions, see `completeFailure_full`) -/
theorem Core.Ok.complete {e e' : Engine} (hok : e.core.Ok) {id : Nat} {o : Op} (ho : e.op? id = some o) {sc : Nat} {st : PState}
    {l : List (Nat × Completion)}
    (hcore : e'.core = { e.core with ops := mapErase e.ops id, slowCount := sc, connected := st == .connected,
                                     emitted := (e.outComps ++ if isDisconnect o.packet then [] else l).map (·.1) })
    (hst : st = e.state ∨ (e.state = .pendingDisconnect ∧ st = .halted))
    (hsc : e.cfg.drainOneAtATime = true → (e.state == .connected) = true → sc = e.slowStartCount - o.slowStart)
    (hl : l.map (·.1) = (o.user.map (·.1)).toList) : e'.core.Ok ∧ e'.core.Q.Perm e.core.Q := by
  have hem : (e.outComps ++ if isDisconnect o.packet then [] else l).map (·.1) = e.core.emitted ++ (o.user.map (·.1)).toList := by
    rw [List.map_append]
    by_cases hd : isDisconnect o.packet = true
    · rw [if_pos hd, hok.disconnect_unowned ho hd]; rfl
    · rw [if_neg hd, hl]; rfl
  rw [hcore, hem]
  refine hok.erase ho sc hsc _ ?_
  rcases hst with rfl | ⟨_, rfl⟩
  · exact fun h => h
  · exact fun h => nomatch h

theorem completeFailure_pres (e : Engine) (id : Nat) (k : String) : Pres e (e.completeFailure id k).1 := by
  intro hok
  cases ho : e.op? id with
  | none => rw [completeFailure_none k ho]; exact ⟨hok, List.Perm.refl _⟩
  | some o =>
    obtain ⟨sc, st, oc, heq, hst, hfull⟩ := completeFailure_full e id k ho
    obtain ⟨hsc, rfl, -⟩ := hfull (hok.slow_ge ho)
    rw [heq]
    exact hok.complete ho rfl hst hsc (by cases o.user <;> rfl)

/-- `complete_operation_as_failure` removes the operation (or does nothing when it is not tracked) -/
theorem completeFailure_ops (e : Engine) (id : Nat) (k : String) :
    (e.completeFailure id k).1.ops = mapErase e.ops id ∧ (e.completeFailure id k).1.pendingWC = e.pendingWC ∧
    (e.completeFailure id k).1.nextOpId = e.nextOpId := by
  cases ho : e.op? id with
  | none =>
    rw [completeFailure_none k ho]
    exact ⟨(mapErase_of_lookup_none ho).symm, rfl, rfl⟩
  | some o =>
    obtain ⟨sc, st, oc, heq, _⟩ := completeFailure_shape e id k ho
    rw [heq]; exact ⟨rfl, rfl, rfl⟩

theorem completeSuccess_pres (e : Engine) (id : Nat) (c : Option Completion)
    (hres : ∀ o, e.op? id = some o → o.user.isSome = true → (resultFor o.packet c).isSome = true) :
    Pres e (e.completeSuccess id c).1 := by
  intro hok
  cases ho : e.op? id with
  | none => rw [completeSuccess_none c ho]; exact ⟨hok, List.Perm.refl _⟩
  | some o =>
    obtain ⟨sc, st, oc, np, heq, hst, _, hfull⟩ := completeSuccess_full e id c ho
    obtain ⟨hsc, rfl⟩ := hfull (hok.slow_ge ho)
    rw [heq]
    refine hok.complete ho rfl hst hsc ?_
    cases hu : o.user with
    | none => rfl
    | some u =>
      obtain ⟨res, hr⟩ := Option.isSome_iff_exists.mp (hres o ho (by rw [hu]; rfl))
      rw [hr]; rfl

theorem completeSuccess_ops (e : Engine) (id : Nat) (c : Option Completion) :
    (e.completeSuccess id c).1.ops = mapErase e.ops id ∧ (e.completeSuccess id c).1.pendingWC = e.pendingWC ∧
    (e.completeSuccess id c).1.nextOpId = e.nextOpId := by
  cases ho : e.op? id with
  | none =>
    rw [completeSuccess_none c ho]
    exact ⟨(mapErase_of_lookup_none ho).symm, rfl, rfl⟩
  | some o =>
    obtain ⟨sc, st, oc, np, heq, _⟩ := completeSuccess_shape e id c ho
    rw [heq]; exact ⟨rfl, rfl, rfl⟩

def OpsSub (e e' : Engine) : Prop := ∀ id o, e'.ops.lookup id = some o → e.ops.lookup id = some o

theorem OpsSub.refl (e : Engine) : OpsSub e e := fun _ _ h => h
theorem OpsSub.trans {a b c : Engine} (h1 : OpsSub a b) (h2 : OpsSub b c) : OpsSub a c := fun id o h => h1 id o (h2 id o h)

theorem opsSub_of_erase {e e' : Engine} {id : Nat} (h : e'.ops = mapErase e.ops id) : OpsSub e e' :=
  fun _ _ hi => (lookup_mapErase_some (h ▸ hi)).2

theorem completeFailure_sub (e : Engine) (id : Nat) (k : String) : OpsSub e (e.completeFailure id k).1 :=
  opsSub_of_erase (completeFailure_ops e id k).1

theorem completeSuccess_sub (e : Engine) (id : Nat) (c : Option Completion) : OpsSub e (e.completeSuccess id c).1 :=
  opsSub_of_erase (completeSuccess_ops e id c).1

/-! ### folds -/

theorem failAll_pres (e : Engine) (ids : List Nat) (k : String) : Pres e (e.failAll ids k).1 :=
  failAll_keeps (Pres e) k ids (fun x id _ hx => hx.trans (completeFailure_pres x id k)) e (Pres.refl e)

theorem failAllIgnoringDisconnect_pres (e : Engine) (ids : List Nat) (k : String) : Pres e (e.failAllIgnoringDisconnect ids k).1 :=
  failAllIgnoringDisconnect_keeps (Pres e) k ids (fun x id _ hx => hx.trans (completeFailure_pres x id k)) e (Pres.refl e)

theorem failAll_sub (e : Engine) (ids : List Nat) (k : String) : OpsSub e (e.failAll ids k).1 :=
  failAll_keeps (OpsSub e) k ids (fun x id _ hx => hx.trans (completeFailure_sub x id k)) e (OpsSub.refl e)

theorem failAllIgnoringDisconnect_sub (e : Engine) (ids : List Nat) (k : String) : OpsSub e (e.failAllIgnoringDisconnect ids k).1 :=
  failAllIgnoringDisconnect_keeps (OpsSub e) k ids (fun x id _ hx => hx.trans (completeFailure_sub x id k)) e (OpsSub.refl e)

theorem resultFor_none_of_kind (p : Packet) (h1 : isUserKind p = true) (h2 : isSubUnsub p = false) : (resultFor p none).isSome = true := by
  cases p <;> simp [isUserKind, isSubUnsub] at h1 h2 <;> rfl

/-- `complete_operation_sequence_as_empty_success` over operations none of which is a SUBSCRIBE/UNSUBSCRIBE -/
theorem succeedAll_pres (e : Engine) (ids : List Nat)
    (h : ∀ id ∈ ids, ∀ o, e.ops.lookup id = some o → isSubUnsub o.packet = false) : Pres e (e.succeedAll ids).1 := by
  intro hok
  have := succeedAll_keeps (fun x => (x.core.Ok ∧ x.core.Q.Perm e.core.Q) ∧ OpsSub e x) ids
    (fun x id hid hx =>
      have hp : Pres x (x.completeSuccess id none).1 := completeSuccess_pres x id none (fun o ho hu =>
        resultFor_none_of_kind _ (hx.1.1.userKind _ (mem_of_lookup (show x.core.ops.lookup id = some o from ho)) hu) (h id hid o (hx.2 id o ho)))
      ⟨⟨(hp hx.1.1).1, (hp hx.1.1).2.trans hx.1.2⟩, hx.2.trans (completeSuccess_sub x id none)⟩)
    e ⟨⟨hok, List.Perm.refl _⟩, OpsSub.refl e⟩
  exact this.1

/-! ### operations and queues -/

/-- like `Pres`, with the user operations `l` newly accepted -/
def PresAdd (l : List Nat) (e e' : Engine) : Prop := e.core.Ok → e'.core.Ok ∧ e'.core.Q.Perm (l ++ e.core.Q)

theorem PresAdd.then {l : List Nat} {a b c : Engine} (h1 : PresAdd l a b) (h2 : Pres b c) : PresAdd l a c := fun h =>
  let ⟨hb, pb⟩ := h1 h
  let ⟨hc, pc⟩ := h2 hb
  ⟨hc, pc.trans pb⟩

theorem PresAdd.core {l : List Nat} {a b : Engine} (h : PresAdd l a b) (hok : a.core.Ok) : b.core.Ok := (h hok).1

theorem Pres.toAdd {a b : Engine} (h : Pres a b) : PresAdd [] a b := h

theorem createOp_presAdd (e : Engine) (p : Packet) (user : Option (Nat × Option Nat)) (hk : user.isSome = true → isUserKind p = true) :
    PresAdd (user.map (·.1)).toList e (e.createOp p user).1 := by
  intro hok
  exact hok.create p user hk

theorem createOp_internal_pres (e : Engine) (p : Packet) : Pres e (e.createOp p none).1 := by
  intro hok
  exact hok.create p none (by simp)

theorem createOp_lookup (e : Engine) (p : Packet) (user : Option (Nat × Option Nat)) :
    (e.createOp p user).1.op? (e.createOp p user).2 = some { id := e.nextOpId, packet := p, user := user } := by
  simp [Engine.createOp, Engine.op?, lookup_mapInsert_self]

theorem enqueue_pres (e : Engine) (id : Nat) (q : QueueKind) (front : Bool) (e2 : Engine) (h : e.enqueue id q front = some e2) : Pres e e2 :=
  Pres.of_core_eq (by rw [enqueue_some h]; cases q <;> rfl)

theorem submit_presAdd (e : Engine) (p : Packet) (user : Option (Nat × Option Nat)) (q : QueueKind) (front : Bool)
    (hk : user.isSome = true → isUserKind p = true) : PresAdd (user.map (·.1)).toList e (e.submit p user q front).1 := by
  have h1 := createOp_presAdd e p user hk
  rw [submit_eq]
  exact fst_ite (PresAdd _ e) (fun _ => h1.then (completeFailure_pres _ _ _))
    (fun _ => h1.then (enqueue_pres _ _ _ _ _ (enqueue_created e p user q front)))

def UserEvent.idx : UserEvent → List Nat
  | .publish _ i _ => [i]
  | .subscribe _ i _ => [i]
  | .unsubscribe _ i _ => [i]
  | .disconnect _ => []

theorem handleUser_presAdd (e : Engine) (u : UserEvent) : PresAdd u.idx e (e.handleUser u).1 := by
  cases u with
  | publish p i t => exact submit_presAdd e (.publish p) (some (i, t)) .user false (fun _ => rfl)
  | subscribe p i t => exact submit_presAdd e (.subscribe p) (some (i, t)) .user false (fun _ => rfl)
  | unsubscribe p i t => exact submit_presAdd e (.unsubscribe p) (some (i, t)) .user false (fun _ => rfl)
  | disconnect p => exact submit_presAdd e (.disconnect p) none .high true (by simp)

/-! ### updates of one operation -/

theorem setDup_kind (p : Packet) (v : Bool) : isUserKind (setDup p v) = isUserKind p ∧ isSubUnsub (setDup p v) = isSubUnsub p ∧
    isQos0Publish (setDup p v) = isQos0Publish p := by
  cases p <;> exact ⟨rfl, rfl, rfl⟩

theorem withPacketId_kind (p : Packet) (n : Nat) : isUserKind (withPacketId p n) = isUserKind p ∧
    isSubUnsub (withPacketId p n) = isSubUnsub p ∧ isQos0Publish (withPacketId p n) = isQos0Publish p := by
  cases p <;> exact ⟨rfl, rfl, rfl⟩

theorem isQos0Publish_setDup (p : Packet) (v : Bool) : isQos0Publish (setDup p v) = isQos0Publish p :=
  (setDup_kind p v).2.2

theorem isQos0Publish_withPacketId (p : Packet) (n : Nat) : isQos0Publish (withPacketId p n) = isQos0Publish p :=
  (withPacketId_kind p n).2.2

/-- replacing the operation tracked under `id` by a variant of itself: same number, owner and mark, a packet of the same kind -/
theorem setOp_variant {e : Engine} {id : Nat} {o : Op} (ho : e.op? id = some o) (o' : Op) (hi : o'.id = o.id) (hu : o'.user = o.user)
    (hss : o'.slowStart = o.slowStart)
    (hk : isUserKind o'.packet = isUserKind o.packet ∧ isSubUnsub o'.packet = isSubUnsub o.packet ∧
      isQos0Publish o'.packet = isQos0Publish o.packet) : Pres e (e.setOp o') := fun hok =>
  hok.replace (o := o') (show e.core.ops.lookup o'.id = some o by rw [hi, hok.id_eq ho]; exact ho) hu hk.1 hk.2.1 hss
    (ackTimeout_congr hk.2.2 hu)

theorem setDupFlag_pres (e : Engine) (id : Nat) (v : Bool) : Pres e (e.setDupFlag id v) := by
  rcases setDupFlag_cases e id v with ⟨_, h⟩ | ⟨o, ho, h⟩ <;> rw [h]
  · exact Pres.refl _
  · exact setOp_variant ho _ rfl rfl rfl (setDup_kind _ _)

theorem clearQos2_pres (e : Engine) (id : Nat) : Pres e (e.clearQos2 id) := by
  rcases clearQos2_cases e id with ⟨_, h⟩ | ⟨o, ho, h⟩ <;> rw [h]
  · exact Pres.refl _
  · exact setOp_variant ho _ rfl rfl rfl ⟨rfl, rfl, rfl⟩

theorem unbind_pres (e : Engine) (id : Nat) : Pres e (e.unbind id) := by
  rcases unbind_cases e id with ⟨_, h⟩ | ⟨o, pid, ho, _, h⟩ <;> rw [h]
  · exact Pres.refl _
  · exact (Pres.of_core_eq rfl).trans
      (setOp_variant (e := { e with allocated := mapErase e.allocated pid }) ho _ rfl rfl rfl (withPacketId_kind _ _))

theorem acquireIdFor_pres (e : Engine) (id : Nat) : Pres e (e.acquireIdFor id).1 := by
  rcases acquireIdFor_cases e id with ⟨_, h⟩ | ⟨_, _, _, h⟩ | ⟨o, next, ho, _, _, ⟨_, h⟩ | ⟨pid, _, h⟩⟩ <;> rw [h]
  · exact Pres.refl _
  · exact Pres.refl _
  · exact Pres.of_core_eq rfl
  · exact (Pres.of_core_eq rfl).trans
      (setOp_variant (e := { e with nextPacketId := next, allocated := mapInsert e.allocated pid id }) ho _ rfl rfl rfl
        (withPacketId_kind _ _))

/-! ### connection opened / closed / write completion -/

theorem handleOpened_pres (e : Engine) (d : Nat) : Pres e (e.handleOpened d).1 := by
  rw [handleOpened_eq]
  refine Pres.ite (fun _ => Pres.of_core_conn false rfl (by simp)) fun _ => ?_
  have h1 : Pres e e.opening := Pres.of_core_conn false rfl (by simp)
  generalize e.opening = e1 at h1 ⊢
  exact ((h1.trans (createOp_internal_pres e1 e1.createConnect)).trans
    (enqueue_pres _ _ _ _ _ (enqueue_created e1 e1.createConnect none .high true))).trans (Pres.of_core_eq rfl)

theorem closeCurrent_pres (e : Engine) : Pres e e.closeCurrent.1 :=
  closeCurrent_keeps (Pres e) (fun x id k hx => hx.trans (completeFailure_pres x id k))
    (fun _ _ _ _ hx => hx.trans (Pres.of_core_eq rfl)) e (Pres.refl e)

theorem lookup_mapOps (ops : List (Nat × Op)) (g : Nat → Op → Op) (id : Nat) :
    (ops.map (fun x => (x.1, g x.1 x.2))).lookup id = (ops.lookup id).map (g id) := by
  induction ops with
  | nil => rfl
  | cons x xs ih =>
    obtain ⟨k, o⟩ := x
    simp only [List.map_cons, List.lookup]
    split
    · rename_i heq; have : id = k := by simpa using heq
      subst this; rfl
    · exact ih

/-- rewriting every operation in place, keeping identity, owner and packet; the slow-start marks may change, which the
    slow-start clause allows only while the engine is not Connected -/
theorem Core.Ok.mapOps {c : Core} (h : c.Ok) (g : Nat → Op → Op)
    (hg : ∀ id o, (g id o).id = o.id ∧ (g id o).user = o.user ∧ (g id o).packet = o.packet) (hs : c.connected = false) :
    let c' : Core := { c with ops := c.ops.map (fun x => (x.1, g x.1 x.2)) }
    c'.Ok ∧ c'.Q.Perm c.Q := by
  intro c'
  obtain ⟨hwc, hto⟩ := h.wc_to (ops' := c.ops.map (fun x => (x.1, g x.1 x.2))) (Nat.le_refl _) (fun i o' _ ho' => by
    rw [lookup_mapOps] at ho'
    obtain ⟨o, ho, rfl⟩ := Option.map_eq_some_iff.mp ho'
    exact ⟨o, ho, by rw [(hg i o).2.2], ackTimeout_congr (by rw [(hg i o).2.2]) (hg i o).2.1⟩)
  refine ⟨⟨?_, ?_, ?_, hwc, fun _ hcn => absurd (hs.symm.trans hcn) Bool.false_ne_true, hto⟩, ?_⟩
  · exact List.pairwise_map.mpr (List.pairwise_map.mpr (List.pairwise_map.mp h.sorted))
  · intro x hx
    obtain ⟨y, hy, rfl⟩ := List.mem_map.mp hx
    simp only [(hg y.1 y.2).1]
    exact h.ids y hy
  · intro x hx
    obtain ⟨y, hy, rfl⟩ := List.mem_map.mp hx
    simp only [(hg y.1 y.2).2.1, (hg y.1 y.2).2.2]
    exact h.userKind y hy
  · show (trackedIdx (c.ops.map (fun x => (x.1, g x.1 x.2))) ++ c.emitted).Perm (trackedIdx c.ops ++ c.emitted)
    rw [show trackedIdx (c.ops.map (fun x => (x.1, g x.1 x.2))) = trackedIdx c.ops by
      simp only [trackedIdx, List.filterMap_map, Function.comp_def, (hg _ _).2.1]]

theorem Remarked.pres {e e' : Engine} (h : Remarked e e') (hs : e.state ≠ .connected) : Pres e e' := by
  obtain ⟨g, hg, rfl⟩ := h
  refine fun hok => hok.mapOps g (fun id o => ?_) (by simpa [Engine.core] using hs)
  obtain ⟨s, n, h⟩ := hg id o
  rw [h]; exact ⟨rfl, rfl, rfl⟩

theorem failExceeding_pres (e : Engine) : Pres e e.failExceeding.1 :=
  failExceeding_keeps (Pres e) (fun x id k hx => hx.trans (completeFailure_pres x id k)) e (Pres.refl e)

theorem closeFailHigh_pres (e : Engine) : Pres e e.closeFailHigh.1 :=
  (Pres.of_core_eq (e' := { e with highQ := [] }) rfl).trans (failAllIgnoringDisconnect_pres _ _ _)

theorem closeFailUnflushed_pres (e : Engine) : Pres e e.closeFailUnflushed.1 :=
  (Pres.of_core_wc (e' := { e with pendingWC := [], userQ := e.userQ ++ _ }) [] rfl (by simp)).trans
    (failAllIgnoringDisconnect_pres _ _ _)

theorem closeFailStage_pres (e3 : Engine) : Pres e3 e3.closeFailStage.1 := by
  rw [closeFailStage_eq]
  exact ((closeFailHigh_pres e3).trans (closeFailUnflushed_pres _)).trans (failExceeding_pres _)

theorem requeuePubs_pres (e : Engine) : Pres e e.requeuePubs :=
  foldl_preserves requeuePubStep (Pres e) (fun en id hx => (hx.trans (setDupFlag_pres en id true)).trans (Pres.of_core_eq rfl)) _ _
    (Pres.of_core_eq rfl)

theorem requeueSubs_pres (e : Engine) : Pres e e.requeueSubs :=
  foldl_preserves requeueSubStep (Pres e) (fun _ _ hx => hx.trans (Pres.of_core_eq rfl)) _ _ (Pres.of_core_eq rfl)

theorem filterUserQ_pres (e : Engine) : Pres e e.filterUserQ.1 :=
  filterUserQ_keeps (Pres e) (fun x id k hx => hx.trans (completeFailure_pres x id k)) (fun _ _ hx => hx.trans (Pres.of_core_eq rfl))
    e (Pres.refl e)

theorem closeRequeueStage_pres (e9 : Engine) : Pres e9 e9.closeRequeueStage.1 := by
  rw [closeRequeueStage_eq]
  exact ((requeuePubs_pres e9).trans (requeueSubs_pres _)).trans (filterUserQ_pres _)

theorem handleClosedCore_pres (e : Engine) : Pres e e.handleClosedCore.1 :=
  (handleClosedCore_keeps (fun x => Pres e x ∧ x.state = .disconnected) e (fun h => ⟨Pres.refl e, h⟩)
    (fun _ => ⟨Pres.of_core_conn_to false [] rfl (by simp) (by simp), rfl⟩)
    (fun x hx => ⟨hx.1.trans (closeCurrent_pres x), (closeCurrent_state x (by rw [hx.2]; decide)).trans hx.2⟩)
    (fun x x' h hx => ⟨hx.1.trans (h.pres (by rw [hx.2]; decide)), h.state.trans hx.2⟩)
    (fun x hx => ⟨hx.1.trans (closeFailStage_pres x), closeFailStage_state x hx.2⟩)
    (fun x hx => ⟨hx.1.trans (closeRequeueStage_pres x), closeRequeueStage_state x hx.2⟩)).1

theorem processAckTimeouts_pres (fuel : Nat) (e : Engine) : Pres e (Engine.processAckTimeouts fuel e).1 :=
  processAckTimeouts_keeps (Pres e)
    (fun x id d _ _ hx => (hx.trans (Pres.of_core_wc_to x.pendingWC (x.timeouts.erase (id, d)) rfl (fun _ h => h)
      (fun _ h => List.mem_of_mem_erase h))).trans (completeFailure_pres _ id "AckTimeout")) fuel e (Pres.refl e)

theorem handleClosed_pres (e : Engine) : Pres e e.handleClosed.1 := by
  rw [handleClosed_fst]
  split
  · exact Pres.refl _
  · exact (processAckTimeouts_pres _ e).trans (handleClosedCore_pres _)

theorem handleWriteCompletion_pres (e : Engine) : Pres e e.handleWriteCompletion.1 :=
  handleWriteCompletion_elim (fun x => Pres e x.1) e (Pres.refl e) (fun _ => (Pres.refl e).halt) fun _ hok =>
    ((Pres.of_core_wc [] rfl (by simp)).trans (succeedAll_pres { e with pendingWrite := false, pendingWC := [] } e.pendingWC
      fun id hid o ho => (hok.wc id hid).2 o ho)) hok

/-! ### CONNACK -/

theorem sessionLostStage_pres (e : Engine) : Pres e e.sessionLostStage.1 :=
  sessionLostStage_keeps (Pres e) (fun x id k hx => hx.trans (completeFailure_pres x id k))
    (fun x id hx => hx.trans (setDupFlag_pres x id false)) (fun _ _ _ _ _ hx => hx.trans (Pres.of_core_eq rfl)) e (Pres.refl e)

theorem applySessionPresent_pres (e : Engine) (present : Bool) : Pres e (e.applySessionPresent present).1 :=
  applySessionPresent_keeps (Pres e) (fun x hx => hx.trans (sessionLostStage_pres x))
    (sessionRequeueStage_keeps (Pres e) (fun x id hx => hx.trans (unbind_pres x id)) (fun x id hx => hx.trans (clearQos2_pres x id))
      (fun _ _ _ hx => hx.trans (Pres.of_core_eq rfl)))
    e present (Pres.refl e)

/-- `initialize_slow_start` makes the slow-start clause true, whatever has become of the connected flag -/
theorem initSlowStart_pres {e e1 : Engine} (b : Bool) (h : e1.core = { e.core with connected := b }) : Pres e e1.initSlowStart := by
  intro hok
  have hd : e1.cfg.drainOneAtATime = e.cfg.drainOneAtATime := congrArg Core.drain h
  have ho : e1.ops = e.ops := congrArg Core.ops h
  have hc : e1.initSlowStart.core = { e1.core with slowCount := e1.initSlowStart.slowStartCount } :=
    congrArg Engine.core (initSlowStart_shape e1)
  rw [hc, h]
  refine ⟨⟨hok.sorted, hok.ids, hok.userKind, hok.wc, fun hdr _ => ?_, hok.to⟩, List.Perm.refl _⟩
  have hdr' : e.cfg.drainOneAtATime = true := hdr
  show e1.initSlowStart.slowStartCount = _
  unfold Engine.initSlowStart
  rw [if_neg (by rw [hd, hdr']; decide)]
  exact congrArg (fun l => (l.map (·.2.slowStart)).sum) ho

theorem handleConnack_pres (e : Engine) (c : Connack) : Pres e (e.handleConnack c).1 :=
  handleConnack_keeps (Pres e) e c (fun _ hx => hx.trans (Pres.of_core_eq rfl))
    (fun _ => (initSlowStart_pres (e := e) (e1 := e.connackEntered c) true rfl).trans (applySessionPresent_pres _ c.sessionPresent))
    (Pres.refl e)

/-! ### inbound packets -/

theorem withPubrel_pres {e : Engine} {opId : Nat} {o : Op} (pid : Nat) (ho : e.op? opId = some o) : Pres e (e.withPubrel opId o pid) :=
  (setOp_variant ho { o with pubrel := some (.pubrel { packetId := pid }) } rfl rfl rfl ⟨rfl, rfl, rfl⟩).trans (Pres.of_core_eq rfl)

theorem handlePacket_pres (e : Engine) (p : Packet) : Pres e (e.handlePacket p).1 :=
  handlePacket_keeps (Pres e) e p (Pres.refl e) (fun c _ => handleConnack_pres e c)
    (fun _ _ _ _ ho hres _ => completeSuccess_pres _ _ _ fun o' ho' _ => by rw [ho] at ho'; cases ho'; exact hres)
    (fun _ _ pid _ _ ho _ _ => withPubrel_pres pid ho)
    (fun ev q a _ _ => (Pres.of_core_eq (e' := { e with outEvents := ev, inQos2 := q }) rfl).trans
      ((createOp_internal_pres _ a).trans (Pres.of_core_eq rfl)))
    (fun _ _ _ => Pres.of_core_eq rfl)

theorem handleData_pres (e : Engine) (bs : Bytes) : Pres e (e.handleData bs).1 :=
  handleData_keeps (Pres e) (fun _ h => h.halt) (fun _ _ _ h => h.trans (Pres.of_core_eq rfl))
    (fun x p h => h.trans (handlePacket_pres x p)) e bs (Pres.refl e)

/-! ### service -/

theorem dequeue_core (e : Engine) (all : Bool) : (e.dequeue all).1.core = e.core := by
  obtain ⟨h, r, u, he⟩ := dequeue_shape e all
  rw [he]; rfl

/-- a written operation that is neither SUBSCRIBE nor UNSUBSCRIBE joins the written-but-unflushed list -/
theorem Pres.push_wc {e e' : Engine} (id : Nat) (o : Op) (b : Bool)
    (h : e'.core = { e.core with pendingWC := e.core.pendingWC ++ [id], connected := b })
    (hb : b = true → e.core.connected = true) (ho : e.op? id = some o) (hk : isSubUnsub o.packet = false) : Pres e e' := fun hok => by
  rw [h]
  refine ⟨⟨hok.sorted, hok.ids, hok.userKind, ?_, fun hd hc => hok.slow hd (hb hc), hok.to⟩, List.Perm.refl _⟩
  intro i hi
  rcases List.mem_append.mp hi with hi | hi
  · exact hok.wc i hi
  · have ho : e.core.ops.lookup id = some o := ho
    rw [List.mem_singleton.mp hi]
    exact ⟨(hok.ids _ (mem_of_lookup ho)).2, fun o' ho' => by cases ho.symm.trans ho'; exact hk⟩

/-- `start_operation_ack_timeout` records a deadline only for a tracked operation that has an ack timeout -/
theorem startAckTimeout_pres (e : Engine) (id : Nat) : Pres e (e.startAckTimeout id) := by
  rcases startAckTimeout_cases e id with h | ⟨o, t, ho, hat, h⟩ <;> rw [h]
  · exact Pres.refl _
  · intro hok
    refine ⟨⟨hok.sorted, hok.ids, hok.userKind, hok.wc, hok.slow, ?_⟩, List.Perm.refl _⟩
    intro x hx
    rcases List.mem_append.mp (show x ∈ e.timeouts ++ [(id, e.now + t)] from hx) with hx | hx
    · exact hok.to x hx
    · have ho : e.core.ops.lookup id = some o := ho
      rw [List.mem_singleton.mp hx]
      exact ⟨(hok.ids _ (mem_of_lookup ho)).2, fun o' ho' => by cases ho.symm.trans ho'; rw [hat]; rfl⟩

theorem fileWritten_pres (e : Engine) (id : Nat) (o : Op) (ho : e.op? id = some o) :
    Pres e (e.fileWritten id o) ∧ (e.fileWritten id o).ops = e.ops := by
  rcases fileWritten_kinds e id o with ⟨_, pp, pn, h⟩ | ⟨hn, st, hst, h⟩ <;> rw [h]
  · exact ⟨Pres.of_core_eq rfl, rfl⟩
  · have hk : isSubUnsub o.packet = false := by
      cases hp : o.packet <;> rw [hp] at hn <;> first | rfl | cases hn
    refine ⟨Pres.push_wc id o (st == .connected) rfl (fun hb => ?_) ho hk, rfl⟩
    rcases hst with rfl | rfl
    · exact hb
    · cases hb

theorem onFullyWritten_pres (e e3 : Engine) (h : e.onFullyWritten = some e3) : Pres e e3 := by
  obtain ⟨id, o, _, ho, rfl⟩ := onFullyWritten_cases h
  have hf := fileWritten_pres e id o ho
  have hs := setOp_variant (e := e.fileWritten id o) (o := o) (by rw [Engine.op?, hf.2]; exact ho) { o with pingBase := some e.now }
    rfl rfl rfl ⟨rfl, rfl, rfl⟩
  obtain ⟨pd, np, ha, _⟩ := armPingDeadline_shape (((e.fileWritten id o).setOp { o with pingBase := some e.now }).startAckTimeout id) o
  rw [ha]
  exact ((hf.1.trans hs).trans (startAckTimeout_pres _ id)).trans (Pres.of_core_eq rfl)

theorem rejectCurrent_pres (e : Engine) (id : Nat) (resolution : Resolution) (x : VErr) :
    Pres e (e.rejectCurrent id resolution x).eng := by
  obtain ⟨res, h⟩ := rejectCurrent_cases e id resolution x
  have hf : Pres e (({ e with outRes := res, current := none } : Engine).completeFailure id x.name).1 :=
    Pres.trans (Pres.of_core_eq rfl) (completeFailure_pres { e with outRes := res, current := none } id x.name)
  rcases h with ⟨h, _⟩ | h | h <;> rw [h] <;> exact hf

theorem prepareCurrent_pres (e : Engine) (id : Nat) (o : Op) : Pres e (e.prepareCurrent id o).eng := by
  obtain ⟨res, resolution, _, h⟩ := prepareCurrent_cases e id o
  have hr : Pres e { e with outRes := res } := Pres.of_core_eq rfl
  rcases h with ⟨_, h⟩ | ⟨x, h⟩ | ⟨x, h⟩ | ⟨steps, _, h⟩ <;> rw [h]
  · exact hr
  · exact hr.trans (rejectCurrent_pres _ _ _ _)
  · exact hr
  · exact Pres.of_core_eq rfl

theorem seatCurrent_pres (e : Engine) (all : Bool) : Pres e (e.seatCurrent all).eng := by
  rcases seatCurrent_cases e all with ⟨_, h⟩ | ⟨_, ⟨_, h⟩ | ⟨e1, id, hd, h⟩⟩
  · rw [h]; exact Pres.refl _
  · rw [h]; exact Pres.of_core_eq (dequeue_core e all)
  · have h1 : Pres e e1 := Pres.of_core_eq (by have := dequeue_core e all; rwa [hd] at this)
    have h3 := (h1.trans (Pres.of_core_eq rfl)).trans (acquireIdFor_pres { e1 with current := some id } id)
    rcases h with ⟨_, h⟩ | ⟨o0, _, ⟨_, h⟩ | ⟨_, ⟨_, h⟩ | ⟨o, _, h⟩⟩⟩ <;> rw [h]
    · exact h1.trans (Pres.of_core_eq rfl)
    · exact h3
    · exact h3
    · exact h3.trans (prepareCurrent_pres _ id o)

theorem serviceQueueAux_pres (all : Bool) (cap : Nat) (fuel : Nat) (e : Engine) : Pres e (Engine.serviceQueueAux all cap fuel e).1 := by
  refine serviceQueueAux_ind all cap (Pres e) (fun x => Pres e x.1) (fun _ h => h) (fun e' h _ => ?_) fuel e (Pres.refl e)
  have hs := h.trans (seatCurrent_pres e' all)
  generalize e'.seatCurrent all = seat at hs ⊢
  cases seat with
  | ret e1 r => exact hs
  | cont e1 => exact hs
  | encode e1 =>
    have h2 : Pres e (e1.encodeCurrent cap).1 := hs.trans (Pres.of_core_eq rfl)
    exact ⟨fun _ _ => hs, fun _ _ _ _ _ => ⟨fun _ => h2, fun _ _ => h2, fun _ _ e3 hf => h2.trans (onFullyWritten_pres _ e3 hf)⟩⟩

theorem serviceQueue_pres (e : Engine) (all : Bool) (cap prefill : Nat) : Pres e (e.serviceQueue all cap prefill).1 := by
  rw [serviceQueue_eq]
  unfold serviceQueueEnd
  exact ((Pres.of_core_eq rfl).trans (serviceQueueAux_pres all cap _ { e with outBytes := List.replicate (min prefill cap) 0 })).trans
    (Pres.of_core_eq rfl)

theorem serviceKeepAlive_pres (e : Engine) : Pres e e.serviceKeepAlive.1 :=
  serviceKeepAlive_keeps (Pres e) e (Pres.refl e)
    ((createOp_internal_pres e .pingreq).trans (enqueue_pres _ _ _ _ _ (enqueue_created e .pingreq none .high true)))
    (fun _ _ _ h2 _ => h2.trans (Pres.of_core_eq rfl))

theorem serviceCore_pres (e : Engine) (cap prefill : Nat) : Pres e (e.serviceCore cap prefill).1 := by
  rcases serviceCore_cases e cap prefill with ⟨_, h⟩ | ⟨_, h⟩ | ⟨_, h⟩ | ⟨_, ⟨_, h⟩ | ⟨d, _, h⟩⟩ | ⟨_, h⟩ <;> rw [h]
  · exact Pres.refl _
  · exact Pres.refl _
  · exact processAckTimeouts_pres _ _
  · exact Pres.refl _
  · exact Pres.ite (fun _ => Pres.refl _) fun _ => serviceQueue_pres _ _ _ _
  · have h0 := processAckTimeouts_pres (e.timeouts.length + 1) e
    refine andThen_elim (fun x => Pres e x.1) (fun _ => h0) fun _ => ?_
    have ha := h0.trans (serviceKeepAlive_pres _)
    refine andThen_elim (fun x => Pres e x.1) (fun _ => ha) fun _ => ?_
    have hb := ha.trans (serviceQueue_pres _ true cap prefill)
    exact andThen_elim (fun x => Pres e x.1) (fun _ => hb) fun _ => hb.trans (processAckTimeouts_pres _ _)

theorem service_pres (e : Engine) (cap prefill : Nat) : Pres e (e.service cap prefill).1 := by
  rcases service_cases e cap prefill with ⟨_, h⟩ | ⟨k, _, h⟩ <;> rw [h]
  · exact serviceCore_pres e cap prefill
  · exact (serviceCore_pres e cap prefill).halt

/-! ### reset -/

theorem failAll_ops (k : String) (ids : List Nat) (e : Engine) :
    (e.failAll ids k).1.ops = e.ops.filter (fun x => !ids.contains x.1) := by
  have h := failAll_ind (fun T x => x.1.ops.filter (fun y => !T.contains y.1) = e.ops.filter (fun y => !ids.contains y.1))
    k ids (fun T x _ id _ h => ?_) e rfl
  · exact (List.filter_eq_self.mpr fun _ _ => rfl).symm.trans h
  · rw [← h, (completeFailure_ops x id k).1, mapErase, List.filter_filter]
    apply List.filter_congr
    intro y _
    simp only [List.contains_cons, Bool.not_or, bne]
    rw [Bool.and_comm]

theorem reset_pres (e : Engine) : Pres e e.reset := by
  unfold Engine.reset
  simp only []
  have h0 : Pres e (if e.state != .disconnected then { e with state := .halted } else e) := by
    split
    · exact Pres.of_core_conn false rfl (by simp)
    · exact Pres.refl _
  generalize (if e.state != .disconnected then ({ e with state := .halted } : Engine) else e) = e0 at h0 ⊢
  have h1 := h0.trans (failAll_pres e0 (e0.ops.map (·.1)) "ClientClosed")
  have hops : (e0.failAll (e0.ops.map (·.1)) "ClientClosed").1.ops = [] := by
    rw [failAll_ops]
    apply List.filter_eq_nil_iff.mpr
    intro x hx
    have : (e0.ops.map (·.1)).contains x.1 = true := by
      simp only [List.contains_iff_mem]
      exact List.mem_map_of_mem hx
    rw [this]; decide
  generalize e0.failAll (e0.ops.map (·.1)) "ClientClosed" = y at h1 hops ⊢
  obtain ⟨e1, r⟩ := y
  simp only [] at h1 hops ⊢
  refine h1.trans (Pres.of_core_wc_to [] [] ?_ (by simp) (by simp))
  simp only [Engine.core, hops]

/-! ### one step, and every history -/

def Event.submitted : Event → List Nat
  | .user _ u => u.idx
  | _ => []

theorem haltOnErr_pres {e : Engine} (x : Engine × Res) (h : Pres e x.1) : Pres e (haltOnErr x).1 :=
  haltOnErr_keeps (Pres e) (fun _ => Pres.halt) x h

/-- a step is `begin`, a handler, `finish`; with nothing left over from the step before, `begin` leaves the core alone -/
theorem finish_spec {l : List Nat} {e e1 : Engine} (t : Nat) (r : Res) (h : PresAdd l (e.begin t) e1) (hok : e.core.Ok)
    (hq : e.outComps = []) :
    (e1.finish r).1.core.Ok ∧ (e1.finish r).1.outComps = [] ∧
    (trackedIdx (e1.finish r).1.ops ++ (e1.finish r).2.completions.map (·.1)).Perm (l ++ trackedIdx e.ops) := by
  have hb : (e.begin t).core = e.core := by simp [Engine.core, Engine.begin, hq]
  obtain ⟨h1, hp⟩ := h (hb ▸ hok)
  refine ⟨⟨h1.sorted, h1.ids, h1.userKind, h1.wc, h1.slow, h1.to⟩, rfl, ?_⟩
  rw [hb, show e.core.Q = trackedIdx e.ops by simp [Core.Q, Engine.core, hq]] at hp
  exact hp

/-- **One step of the engine, any event, any state satisfying the invariant**: the invariant is kept, and the user
    operations tracked afterwards together with those resolved by this step are exactly those tracked before
    together with the one submitted by this step (as multisets). -/
theorem step_conserves (e : Engine) (ev : Event) (hok : e.core.Ok) (hq : e.outComps = []) :
    (step e ev).1.core.Ok ∧ (step e ev).1.outComps = [] ∧
    (trackedIdx (step e ev).1.ops ++ (step e ev).2.completions.map (·.1)).Perm (ev.submitted ++ trackedIdx e.ops) := by
  cases ev with
  | user t u => exact finish_spec t _ (handleUser_presAdd (e.begin t) u) hok hq
  | opened t d => exact finish_spec t _ (haltOnErr_pres _ (handleOpened_pres (e.begin t) d)).toAdd hok hq
  | closed t => exact finish_spec t _ (haltOnErr_pres _ (handleClosed_pres (e.begin t))).toAdd hok hq
  | data t bs => exact finish_spec t _ (haltOnErr_pres _ (handleData_pres (e.begin t) bs)).toAdd hok hq
  | writeDone t => exact finish_spec t _ (haltOnErr_pres _ (handleWriteCompletion_pres (e.begin t))).toAdd hok hq
  | service t cap pre => exact finish_spec t _ (service_pres (e.begin t) cap pre).toAdd hok hq
  | queryNext t => exact finish_spec t .ok (Pres.refl (e.begin t)).toAdd hok hq
  | reset t => exact finish_spec t .ok (reset_pres (e.begin t)).toAdd hok hq

/-- the engine after a sequence of events, with everything it handed to the user on the way -/
def runEvents : Engine → List Event → Engine × List (Nat × Completion)
  | e, [] => (e, [])
  | e, ev :: rest =>
    let (e1, o) := step e ev
    let (e2, cs) := runEvents e1 rest
    (e2, o.completions ++ cs)

/-- what every step keeps, every history keeps -/
theorem runEvents_keeps (P : Engine → Prop) :
    ∀ (evs : List Event) (e : Engine), (∀ e, ∀ ev ∈ evs, P e → P (step e ev).1) → P e → P (runEvents e evs).1
  | [], _, _, h => h
  | ev :: rest, e, hs, h => by
    simp only [runEvents]
    exact runEvents_keeps P rest _ (fun e x hx => hs e x (List.mem_cons_of_mem _ hx)) (hs e ev (List.mem_cons_self ..) h)

theorem new_core_ok (cfg : Config) : (Engine.new cfg).core.Ok :=
  ⟨List.Pairwise.nil, (fun x hx => by cases hx), (fun x hx => by cases hx), (fun i hi => by cases hi),
    (fun _ hc => by simp [Engine.core, Engine.new] at hc), (fun x hx => by simp [Engine.core, Engine.new] at hx)⟩

/-- the bookkeeping of `run_conserves`: one step, then the rest -/
theorem perm_step_rest {t0 t1 t2 c1 c2 s1 sr : List Nat} (h1 : (t1 ++ c1).Perm (s1 ++ t0)) (h2 : (t2 ++ c2).Perm (sr ++ t1)) :
    (t2 ++ (c1 ++ c2)).Perm (s1 ++ sr ++ t0) := by
  rw [List.append_assoc]
  -- c1 ++ (t2 ++ c2), c1 ++ (sr ++ t1), sr ++ (c1 ++ t1), sr ++ (s1 ++ t0)
  exact (List.perm_append_comm_assoc t2 c1 c2).trans <| (h2.append_left c1).trans <|
    (List.perm_append_comm_assoc c1 sr t1).trans <| ((List.perm_append_comm.trans h1).append_left sr).trans
      (List.perm_append_comm_assoc sr s1 t0)

theorem run_conserves : ∀ (evs : List Event) (e : Engine), e.core.Ok → e.outComps = [] →
    (runEvents e evs).1.core.Ok ∧ (runEvents e evs).1.outComps = [] ∧
    (trackedIdx (runEvents e evs).1.ops ++ (runEvents e evs).2.map (·.1)).Perm (evs.flatMap Event.submitted ++ trackedIdx e.ops) := by
  intro evs
  induction evs with
  | nil => intro e hok hq; exact ⟨hok, hq, by simp [runEvents]⟩
  | cons ev rest ih =>
    intro e hok hq
    obtain ⟨h1, hq1, hp1⟩ := step_conserves e ev hok hq
    obtain ⟨h2, hq2, hp2⟩ := ih (step e ev).1 h1 hq1
    simp only [runEvents, List.map_append, List.flatMap_cons]
    exact ⟨h2, hq2, perm_step_rest hp1 hp2⟩

end GV
