/- Proofs/Lru.lean — the LRU outbound alias resolver keeps the server's alias table and its own cache consistent -/
import GV.Model.Alias
import GV.Proofs.AList
namespace GV

/-- the alias table a conformant server builds from what is sent: a PUBLISH with a topic and an alias binds it -/
def serverApply (S : List (Nat × Bytes)) (res : Resolution) (topic : Bytes) : List (Nat × Bytes) :=
  match res.alias with
  | some a => if res.skipTopic then S else (a, topic) :: S.filter (fun e => e.1 != a)
  | none => S

/-- the topic the server reconstructs for a PUBLISH sent under this resolution -/
def serverTopic (S : List (Nat × Bytes)) (res : Resolution) (topic : Bytes) : Option Bytes :=
  if res.skipTopic then (match res.alias with | some a => S.lookup a | none => none) else some topic

/-- cache invariant: every cached (topic, alias) pair is bound on the server, aliases are distinct, topics are
    distinct, a cache of `n` entries uses aliases from 1..n only, and it holds at most maxAlias entries -/
structure LruInv (r : OutResolver) (S : List (Nat × Bytes)) : Prop where
  bound : ∀ t a, (t, a) ∈ r.cache → S.lookup a = some t
  aliasesNodup : (r.cache.map (·.2)).Nodup
  topicsNodup : (r.cache.map (·.1)).Nodup
  inRange : ∀ t a, (t, a) ∈ r.cache → 1 ≤ a ∧ a ≤ r.cache.length
  size : r.cache.length ≤ r.maxAlias

theorem lookup_mem {α β} [BEq α] [LawfulBEq α] (l : List (α × β)) (k : α) (v : β) (h : l.lookup k = some v) : (k, v) ∈ l := by
  obtain ⟨l₁, l₂, rfl, _⟩ := List.lookup_eq_some_iff.mp h
  exact List.mem_append_right _ (List.mem_cons_self ..)

theorem mem_lookup_of_nodup {α β} [BEq α] [LawfulBEq α] (l : List (α × β)) (k : α) (v : β)
    (hn : (l.map (·.1)).Nodup) (h : (k, v) ∈ l) : l.lookup k = some v := by
  induction l with
  | nil => cases h
  | cons x xs ih =>
    obtain ⟨k', v'⟩ := x
    simp only [List.map_cons, List.nodup_cons] at hn
    rcases List.mem_cons.mp h with h1 | h1
    · cases h1; simp [List.lookup]
    · have hne : (k == k') = false := by
        simp only [beq_eq_false_iff_ne, ne_eq]
        intro heq; subst heq
        exact hn.1 (List.mem_map.mpr ⟨(k, v), h1, rfl⟩)
      simp only [List.lookup, hne]
      exact ih hn.2 h1

theorem cons_filter_perm {α β} [BEq α] [LawfulBEq α] : ∀ (l : List (α × β)) (k : α) (v : β), (l.map (·.1)).Nodup → (k, v) ∈ l →
    ((k, v) :: l.filter (fun e => e.1 != k)).Perm l
  | x :: xs, k, v, hn, h => by
    rw [List.map_cons, List.nodup_cons] at hn
    rcases List.mem_cons.mp h with h1 | h1
    · subst h1
      have : xs.filter (fun e => e.1 != k) = xs :=
        List.filter_eq_self.mpr fun e he => bne_iff_ne.mpr fun heq => hn.1 (List.mem_map.mpr ⟨e, he, heq⟩)
      rw [List.filter_cons_of_neg (p := fun e : α × β => e.1 != k) (by simp), this]
    · have hne : (x.1 != k) = true := bne_iff_ne.mpr fun heq => hn.1 (List.mem_map.mpr ⟨(k, v), h1, heq.symm⟩)
      rw [List.filter_cons_of_pos (p := fun e : α × β => e.1 != k) hne]
      exact (List.Perm.swap ..).trans ((cons_filter_perm xs k v hn.2 h1).cons x)

theorem LruInv.of_perm {r : OutResolver} {S} (inv : LruInv r S) {c : List (Bytes × Nat)} (hp : c.Perm r.cache) :
    LruInv { r with cache := c } S :=
  ⟨fun t a h => inv.bound t a (hp.mem_iff.mp h), (hp.map _).nodup_iff.mpr inv.aliasesNodup,
    (hp.map _).nodup_iff.mpr inv.topicsNodup, fun t a h => hp.length_eq ▸ inv.inRange t a (hp.mem_iff.mp h),
    hp.length_eq ▸ inv.size⟩

/-- a fresh topic under a fresh alias in front of (part of) the cache, and the server binding that alias to it -/
theorem LruInv.push {r : OutResolver} {S} (inv : LruInv r S) {c : List (Bytes × Nat)} {topic : Bytes} {a : Nat}
    (hsub : c.Sublist r.cache) (hlen : r.cache.length ≤ c.length + 1) (hsz : c.length + 1 ≤ r.maxAlias)
    (ha : a ∉ c.map (·.2)) (ht : topic ∉ c.map (·.1)) (h1 : 1 ≤ a ∧ a ≤ c.length + 1) :
    LruInv { r with cache := (topic, a) :: c } ((a, topic) :: S.filter (fun e => e.1 != a)) where
  bound t b hb := by
    rw [lookup_insert]
    rcases List.mem_cons.mp hb with h | h
    · cases h; exact if_pos rfl
    · rw [if_neg fun e => ha (List.mem_map.mpr ⟨(t, b), h, e⟩)]
      exact inv.bound t b (hsub.subset h)
  aliasesNodup := List.nodup_cons.mpr ⟨ha, (hsub.map _).nodup inv.aliasesNodup⟩
  topicsNodup := List.nodup_cons.mpr ⟨ht, (hsub.map _).nodup inv.topicsNodup⟩
  inRange t b hb := by
    rcases List.mem_cons.mp hb with h | h
    · cases h; exact h1
    · exact ⟨(inv.inRange t b (hsub.subset h)).1, Nat.le_trans (inv.inRange t b (hsub.subset h)).2 hlen⟩
  size := hsz

/-! ### the branches of `resolve` for an LRU resolver -/

theorem lru_zero (r : OutResolver) (cfg : Nat) (hk : r.kind = .lru cfg) (h0 : r.maxAlias = 0) (alias : Option Nat) (topic : Bytes) :
    r.resolve alias topic = (r, {}) := by
  simp [OutResolver.resolve, hk, h0]

theorem lru_hit (r : OutResolver) (cfg : Nat) (hk : r.kind = .lru cfg) (h0 : r.maxAlias ≠ 0) (alias : Option Nat) (topic : Bytes) (a : Nat)
    (hl : r.cache.lookup topic = some a) :
    r.resolve alias topic = ({ r with cache := (topic, a) :: r.cache.filter (fun e => e.1 != topic) }, { skipTopic := true, alias := some a }) := by
  simp [OutResolver.resolve, hk, h0, hl]

theorem lru_miss (r : OutResolver) (cfg : Nat) (hk : r.kind = .lru cfg) (h0 : r.maxAlias ≠ 0) (alias : Option Nat) (topic : Bytes)
    (hl : r.cache.lookup topic = none) :
    r.resolve alias topic =
      ({ r with cache := (lruPush (lruCapacity cfg) (if r.cache.length = r.maxAlias then r.cache.dropLast else r.cache) topic
          (lruAliasFor r.cache r.maxAlias)) }, { skipTopic := false, alias := some (lruAliasFor r.cache r.maxAlias) }) := by
  simp [OutResolver.resolve, hk, h0, hl]

theorem lruPush_fresh (cap : Nat) (cache : List (Bytes × Nat)) (topic : Bytes) (a : Nat) (hl : cache.lookup topic = none)
    (hlen : cache.length < cap) : lruPush cap cache topic a = (topic, a) :: cache := by
  have hf : cache.filter (fun e => e.1 != topic) = cache :=
    List.filter_eq_self.mpr fun e he => bne_iff_ne.mpr (Ne.symm (bne_iff_ne.mp (List.lookup_eq_none_iff.mp hl e he)))
  unfold lruPush
  simp only [hf]
  exact if_neg (Nat.not_lt.mpr hlen)

/-- a miss while there is room: the next unused alias -/
theorem lru_miss_room (r : OutResolver) (cfg : Nat) (hk : r.kind = .lru cfg) (hcap : r.maxAlias ≤ lruCapacity cfg)
    (alias : Option Nat) (topic : Bytes) (hl : r.cache.lookup topic = none) (hlt : r.cache.length < r.maxAlias) :
    r.resolve alias topic = ({ r with cache := (topic, r.cache.length + 1) :: r.cache },
      { skipTopic := false, alias := some (r.cache.length + 1) }) := by
  have hal : lruAliasFor r.cache r.maxAlias = r.cache.length + 1 := if_neg (Nat.not_lt.mpr hlt)
  rw [lru_miss r cfg hk (Nat.ne_of_gt (Nat.zero_lt_of_lt hlt)) alias topic hl, hal, if_neg (Nat.ne_of_lt hlt),
    lruPush_fresh _ _ _ _ hl (Nat.lt_of_lt_of_le hlt hcap)]

/-- a miss with every alias in use: the least recently used entry goes, and its alias is used again -/
theorem lru_miss_full (r : OutResolver) (cfg : Nat) (hk : r.kind = .lru cfg) (hcap : r.maxAlias ≤ lruCapacity cfg)
    (alias : Option Nat) (topic : Bytes) (hl : r.cache.lookup topic = none) (h0 : r.maxAlias ≠ 0)
    (hlen : r.cache.length = r.maxAlias) (e : Bytes × Nat) (he : r.cache.getLast? = some e) :
    r.resolve alias topic = ({ r with cache := (topic, e.2) :: r.cache.dropLast }, { skipTopic := false, alias := some e.2 }) := by
  have hal : lruAliasFor r.cache r.maxAlias = e.2 := by
    unfold lruAliasFor
    rw [if_pos (hlen ▸ Nat.lt_succ_self _), he]
  have hl' : r.cache.dropLast.lookup topic = none :=
    List.lookup_eq_none_iff.mpr fun p hp => List.lookup_eq_none_iff.mp hl p ((List.dropLast_sublist _).subset hp)
  rw [lru_miss r cfg hk h0 alias topic hl, hal, if_pos hlen, lruPush_fresh _ _ _ _ hl']
  rw [List.length_dropLast, hlen]
  exact Nat.lt_of_lt_of_le (Nat.sub_lt (Nat.pos_of_ne_zero h0) Nat.one_pos) hcap

/-- **One resolution of the LRU resolver.**  Whatever topic is published, the server reconstructs exactly that
    topic from what is sent (full topic, or alias only), and the cache stays consistent with the server's table. -/
theorem lru_step (r : OutResolver) (S : List (Nat × Bytes)) (cfg : Nat) (hk : r.kind = .lru cfg)
    (hcap : r.maxAlias ≤ lruCapacity cfg) (inv : LruInv r S) (alias : Option Nat) (topic : Bytes) :
    let out := r.resolve alias topic
    serverTopic S out.2 topic = some topic ∧ LruInv out.1 (serverApply S out.2 topic) ∧
      out.1.kind = r.kind ∧ out.1.maxAlias = r.maxAlias ∧ (∀ a, out.2.alias = some a → 1 ≤ a ∧ a ≤ r.maxAlias) := by
  have hnot : r.cache.lookup topic = none → ∀ c : List (Bytes × Nat), c.Sublist r.cache → topic ∉ c.map (·.1) :=
    fun hl c hc hin => by
      obtain ⟨y, hy, hyt⟩ := List.mem_map.mp hin
      exact bne_iff_ne.mp (List.lookup_eq_none_iff.mp hl y (hc.subset hy)) hyt.symm
  by_cases h0 : r.maxAlias = 0
  · rw [lru_zero r cfg hk h0]
    exact ⟨rfl, inv, rfl, rfl, fun a h => nomatch h⟩
  · cases hl : r.cache.lookup topic with
    | some a =>
      have hmem := lookup_mem r.cache topic a hl
      rw [lru_hit r cfg hk h0 alias topic a hl]
      exact ⟨inv.bound topic a hmem, inv.of_perm (cons_filter_perm _ _ _ inv.topicsNodup hmem), rfl, rfl,
        fun b hb => Option.some.inj hb ▸ ⟨(inv.inRange topic a hmem).1, Nat.le_trans (inv.inRange topic a hmem).2 inv.size⟩⟩
    | none =>
      by_cases hlt : r.cache.length < r.maxAlias
      · rw [lru_miss_room r cfg hk hcap alias topic hl hlt]
        refine ⟨rfl, inv.push (List.Sublist.refl _) (Nat.le_succ _) hlt ?_ (hnot hl _ (List.Sublist.refl _))
          ⟨Nat.succ_pos _, Nat.le_refl _⟩, rfl, rfl, fun b hb => Option.some.inj hb ▸ ⟨Nat.succ_pos _, hlt⟩⟩
        intro hin
        obtain ⟨y, hy, hya⟩ := List.mem_map.mp hin
        exact Nat.not_succ_le_self _ (hya ▸ (inv.inRange y.1 y.2 hy).2)
      · have hlen : r.cache.length = r.maxAlias := Nat.le_antisymm inv.size (Nat.not_lt.mp hlt)
        have hne : r.cache ≠ [] := fun he => h0 (by rw [← hlen, he]; rfl)
        have hsplit := List.dropLast_concat_getLast hne
        generalize r.cache.getLast hne = e at hsplit
        have he : r.cache.getLast? = some e := by rw [← hsplit, List.getLast?_concat]
        have helast : e ∈ r.cache := by rw [← hsplit]; exact List.mem_append_right _ (List.mem_singleton_self e)
        have hdl : r.cache.dropLast.length + 1 = r.cache.length := by
          rw [← hsplit, List.length_append, List.dropLast_concat]; rfl
        have hr := inv.inRange e.1 e.2 helast
        rw [lru_miss_full r cfg hk hcap alias topic hl h0 hlen e he]
        refine ⟨rfl, inv.push (List.dropLast_sublist _) (Nat.le_of_eq hdl.symm) (hdl ▸ inv.size) ?_
          (hnot hl _ (List.dropLast_sublist _)) ⟨hr.1, hdl ▸ hr.2⟩, rfl, rfl,
          fun b hb => Option.some.inj hb ▸ ⟨hr.1, Nat.le_trans hr.2 inv.size⟩⟩
        intro hin
        have hn := inv.aliasesNodup
        rw [← hsplit, List.map_append, List.nodup_append] at hn
        exact hn.2.2 e.2 hin e.2 (List.mem_singleton_self _) rfl

/-- after a reset (new connection) the invariant holds with an empty server table -/
theorem lru_reset_inv (r : OutResolver) (cfg max : Nat) (hk : r.kind = .lru cfg) :
    LruInv (r.reset max) [] ∧ (r.reset max).maxAlias ≤ lruCapacity cfg ∧ (r.reset max).kind = .lru cfg := by
  simp only [OutResolver.reset, hk]
  exact ⟨⟨fun _ _ h => (nomatch h), List.nodup_nil, List.nodup_nil, fun _ _ h => (nomatch h), Nat.zero_le _⟩,
    Nat.le_trans (Nat.min_le_left ..) (Nat.le_max_right ..), trivial⟩

end GV
