/- Proofs/EngineNoPanic.lean — no `unwrap()`, `assert!` or `panic!` of the engine is reachable: under the invariant
   (both layers) no entry point of the model returns `Res.panic`, provided the output buffer has room for a fixed
   header (capacity ≥ 4, which the encoder itself demands). -/
import GV.Proofs.EngineClose
import GV.Proofs.EngineState
namespace GV

def Res.NP (r : Res) : Prop := ∀ s, r ≠ .panic s

theorem Res.NP.ok : Res.ok.NP := fun _ h => by cases h
theorem Res.NP.err (k : String) : (Res.err k).NP := fun _ h => by cases h

theorem Res.NP.fold {a b : Res} (ha : a.NP) (hb : b.NP) : (a.fold b).NP := by
  cases a with
  | panic t => exact absurd rfl (ha t)
  | _ => cases b with
    | panic t => exact absurd rfl (hb t)
    | _ => intro s h; cases h

theorem Res.NP.ignore {r : Res} (h : r.NP) : (ignoreUserDisconnect r).NP := by
  intro s
  unfold ignoreUserDisconnect
  split
  · intro hh; cases hh
  · exact h s

theorem Res.NP.of_eq_ok {r : Res} (h : r = .ok) : r.NP := by rw [h]; exact Res.NP.ok

theorem np_ite {c : Prop} [Decidable c] {a b : Engine × Res} (ha : a.2.NP) (hb : b.2.NP) : (if c then a else b).2.NP :=
  ite_keeps (fun x : Engine × Res => x.2.NP) ha hb

/-! ### completions -/

theorem completeFailure_np (e : Engine) (id : Nat) (k : String) (hok : e.core.Ok) : (e.completeFailure id k).2.NP := by
  rcases completeFailure_result e id k hok with a | ⟨_, _, _, a⟩
  · rw [a]; exact Res.NP.ok
  · rw [a]; exact Res.NP.err _

theorem failAll_np (k : String) (ids : List Nat) (e : Engine) (hok : e.core.Ok) : (e.failAll ids k).2.NP :=
  (failAll_ind (fun _ y => y.1.core.Ok ∧ y.2.NP) k ids
    (fun _ x _ id _ h => ⟨(completeFailure_pres x id k h.1).1, h.2.fold (completeFailure_np x id k h.1)⟩) e ⟨hok, .ok⟩).2

theorem failAllIgnoringDisconnect_np (k : String) (ids : List Nat) (e : Engine) (hok : e.core.Ok) :
    (e.failAllIgnoringDisconnect ids k).2.NP :=
  (failAllIgnoringDisconnect_ind (fun _ y => y.1.core.Ok ∧ y.2.NP) k ids
    (fun _ x _ id _ h => ⟨(completeFailure_pres x id k h.1).1, h.2.fold (completeFailure_np x id k h.1).ignore⟩) e ⟨hok, .ok⟩).2

theorem failExceeding_np (e : Engine) (hok : e.core.Ok) : e.failExceeding.2.NP :=
  (failExceeding_res (fun x => x.core.Ok) Res.NP .ok (fun _ _ => Res.NP.fold)
    (fun x id k h => ⟨(completeFailure_pres x id k h).1, completeFailure_np x id k h⟩) e hok).2

theorem processAckTimeouts_np (fuel : Nat) (e : Engine) (hok : e.core.Ok) : (Engine.processAckTimeouts fuel e).2.NP :=
  (processAckTimeouts_res (fun x => x.core.Ok) Res.NP Res.NP.ok (fun _ _ => Res.NP.fold)
    (fun x id d _ _ hx =>
      have hok1 : ({ x with timeouts := x.timeouts.erase (id, d) } : Engine).core.Ok :=
        ((Pres.of_core_wc_to (e := x) x.pendingWC (x.timeouts.erase (id, d)) rfl (fun _ h => h) (fun _ h => List.mem_of_mem_erase h)) hx).1
      ⟨((completeFailure_pres _ id "AckTimeout") hok1).1, completeFailure_np _ id "AckTimeout" hok1⟩) fuel e hok).2

theorem applyDisconnectCompletion_result (e : Engine) (o : Op) :
    (e.applyDisconnectCompletion o).2 = .ok ∨ (e.applyDisconnectCompletion o).2 = .err "UserInitiatedDisconnect" := by
  unfold Engine.applyDisconnectCompletion
  split
  · exact .inr rfl
  · exact .inl rfl

/-- a successful completion does not panic when the result handed over fits the operation: an empty result only for
    a publish or for an operation the user does not wait on -/
theorem completeSuccess_np (e : Engine) (id : Nat) (c : Option Completion) (hok : e.core.Ok)
    (hc : c = none → ∀ o, e.op? id = some o → o.user.isSome = true → isSubUnsub o.packet = false) :
    (e.completeSuccess id c).2.NP := by
  unfold Engine.completeSuccess
  cases ho : e.op? id with
  | none => exact Res.NP.err _
  | some o =>
    obtain ⟨sc, hA, _⟩ := applyAckable_eq (e.erased id o) o (hok.slow_ge ho)
    simp only [releaseIds_erased, hA]
    -- from here on only the result matters, not the engine
    generalize Engine.applyPingExtension _ o = e4
    have hd := applyDisconnectCompletion_result e4 o
    generalize e4.applyDisconnectCompletion o = x at hd
    obtain ⟨e5, r⟩ := x
    rcases hd with rfl | rfl
    · simp only [Res.isOk, Bool.not_true, Bool.false_eq_true, ↓reduceIte]
      cases hu : o.user with
      | none => exact Res.NP.ok
      | some u =>
        simp only []
        cases hr : resultFor o.packet c with
        | some res => exact Res.NP.ok
        | none =>
          simp only []
          split
          · exact Res.NP.err _
          · have huk := hok.userKind (id, o) (mem_of_lookup ho) (by rw [hu]; rfl)
            have := resultFor_none_of_kind _ huk (hc rfl o ho (by rw [hu]; rfl))
            rw [hr] at this; cases this
          · exact Res.NP.err _
    · exact Res.NP.err _

theorem succeedAll_np (ids : List Nat) (e : Engine) (hok : e.core.Ok)
    (h : ∀ id ∈ ids, ∀ o, e.ops.lookup id = some o → isSubUnsub o.packet = false) : (e.succeedAll ids).2.NP := by
  refine (succeedAll_ind (fun T y => (y.1.core.Ok ∧ ∀ id ∈ T, ∀ o, y.1.ops.lookup id = some o → isSubUnsub o.packet = false) ∧ y.2.NP)
    ids ?_ e ⟨⟨hok, h⟩, .ok⟩).2
  intro T x r id _ ⟨⟨hk, hl⟩, hn⟩
  have hp : Pres x (x.completeSuccess id none).1 := completeSuccess_pres _ _ _ (fun o ho hu =>
    resultFor_none_of_kind _ (hk.userKind _ (mem_of_lookup ho) hu) (hl id (.head _) o ho))
  exact ⟨⟨(hp hk).1, fun i hi o ho => hl i (.tail _ hi) o (completeSuccess_sub x id none i o ho)⟩,
    hn.fold (completeSuccess_np x id none hk (fun _ o ho _ => hl id (.head _) o ho))⟩

theorem handleWriteCompletion_np (e : Engine) (hok : e.core.Ok) : e.handleWriteCompletion.2.NP := by
  refine handleWriteCompletion_elim (fun x => x.2.NP) e (Res.NP.err _) (fun _ => Res.NP.err _) fun _ => ?_
  have h1 : Pres e { e with pendingWrite := false, pendingWC := [] } := Pres.of_core_wc [] rfl (by simp)
  exact succeedAll_np e.pendingWC _ (h1 hok).1 (fun id hid o ho => (hok.wc id hid).2 o ho)

/-! ### user events, connection opened -/

theorem submit_np (e : Engine) (packet : Packet) (user : Option (Nat × Option Nat)) (q : QueueKind) (front : Bool) :
    (e.submit packet user q front).2.NP := by
  rw [submit_eq]
  exact np_ite Res.NP.ok Res.NP.ok

theorem handleUser_np (e : Engine) (u : UserEvent) : (e.handleUser u).2.NP := by
  cases u <;> exact submit_np _ _ _ _ _

theorem handleOpened_np (e : Engine) (d : Nat) : (e.handleOpened d).2.NP := by
  rw [handleOpened_eq]
  exact np_ite (Res.NP.err _) Res.NP.ok

/-! ### connection closed -/

theorem closeFailStage_np (e3 : Engine) (hok : e3.core.Ok) : e3.closeFailStage.2.NP := by
  have k5 := (closeFailHigh_pres e3 hok).1
  have n5 : e3.closeFailHigh.2.NP := failAllIgnoringDisconnect_np _ _ _ hok
  have n8 : e3.closeFailHigh.1.closeFailUnflushed.2.NP :=
    failAllIgnoringDisconnect_np _ _ { e3.closeFailHigh.1 with pendingWC := [], userQ := _ } (Pres.of_core_wc [] rfl (by simp) k5).1
  rw [closeFailStage_eq]
  exact ((Res.NP.ok.fold n5).fold n8).fold (failExceeding_np _ (closeFailUnflushed_pres _ k5).1)

theorem filterUserQ_np (e : Engine) (hok : e.core.Ok) : e.filterUserQ.2.NP := by
  obtain ⟨pr, x, -, hx, heq⟩ := filterUserQ_cases e
  rw [heq, hx]
  exact failAll_np _ _ { e with userQ := [] } hok

theorem closeRequeueStage_np (e9 : Engine) (hok : e9.core.Ok) : e9.closeRequeueStage.2.NP := by
  rw [closeRequeueStage_eq]
  exact filterUserQ_np _ (requeueSubs_pres _ (requeuePubs_pres e9 hok).1).1

theorem handleClosedCore_np (e : Engine) (hinv : Inv e) : e.handleClosedCore.2.NP := by
  by_cases hs : e.state = .disconnected
  · rw [handleClosedCore_idle hs]; exact Res.NP.err _
  · obtain ⟨_, _, e3, -, -, -, heq, hok3, -⟩ := handleClosedCore_mid e hinv hs
    rw [heq]
    exact (closeFailStage_np e3 hok3).fold (closeRequeueStage_np _ (closeFailStage_pres e3 hok3).1)

theorem handleClosed_np (e : Engine) (hinv : Inv e) : e.handleClosed.2.NP := by
  rw [handleClosed_eq]
  refine ite_elim (fun x : Engine × Res => x.2.NP) (fun _ => Res.NP.err _) fun hd => ?_
  exact Res.NP.fold (processAckTimeouts_np _ e hinv.1).ignore
    (handleClosedCore_np _ ((processAckTimeouts_hk (e.timeouts.length + 1) e).inv hinv (by simpa using hd)).1)

/-! ### the validators never ask for settings that are not there -/

/-- the validator's verdict is not the `unwrap()` of missing negotiated settings -/
def VRes.NPS (r : VRes) : Prop := r ≠ .error .panicNoSettings

theorem okIf_nps (b : Bool) : VRes.NPS (okIf b) := by
  unfold okIf VRes.NPS; split <;> intro h <;> cases h

theorem ok_nps : VRes.NPS (.ok ()) := by intro h; cases h

theorem protocolError_nps : VRes.NPS (.error .protocolError) := by intro h; cases h

theorem bind_nps (a : VRes) (f : Unit → VRes) : VRes.NPS (a >>= f) ↔ VRes.NPS a ∧ (a = .ok () → VRes.NPS (f ())) := by
  cases a with
  | error x => exact ⟨fun h => ⟨h, fun hh => by cases hh⟩, fun h => h.1⟩
  | ok u => exact ⟨fun h => ⟨ok_nps, fun _ => h⟩, fun h => h.2 rfl⟩

theorem vOptLen_nps : ∀ o, VRes.NPS (vOptLen o)
  | none => ok_nps
  | some _ => okIf_nps _

theorem vOptStr_nps : ∀ o, VRes.NPS (vOptStr o)
  | none => ok_nps
  | some _ => okIf_nps _

theorem vUserProps_nps : ∀ o, VRes.NPS (vUserProps o)
  | none => ok_nps
  | some _ => okIf_nps _

theorem sizeCheck_nps (l : Option (Nat × Nat)) (st : Settings) : VRes.NPS (sizeCheck l (some st)) := by
  unfold sizeCheck
  cases l with
  | none => intro h; cases h
  | some x =>
    obtain ⟨rl, pl⟩ := x
    simp only []
    cases vliSize rl with
    | none => intro h; cases h
    | some sz => exact okIf_nps _

/-! The validators are chains of the checks above; `simp only` with `bind_nps` walks a chain and closes every link. -/

theorem vConnectOutbound_nps (c : Connect) : VRes.NPS (vConnectOutbound c) := by
  unfold vConnectOutbound
  cases c.will with
  | none => simp only [bind_nps, ok_nps, okIf_nps, vOptLen_nps, vOptStr_nps, vUserProps_nps, true_and, implies_true]
  | some w =>
    simp only []
    cases w.responseTopic <;>
      simp only [bind_nps, ok_nps, okIf_nps, vOptLen_nps, vOptStr_nps, vUserProps_nps, true_and, implies_true]

/-- at send time every packet but the CONNECT is checked against the negotiated settings -/
theorem validateOutboundInternal_nps (pk : Packet) (s : Option Settings) (se : Nat) (r : Option Resolution)
    (hs : s.isSome = true ∨ isConnectPacket pk = true) : VRes.NPS (validateOutboundInternal pk s se r) := by
  rcases hs with hs | hs
  · obtain ⟨st, rfl⟩ := Option.isSome_iff_exists.mp hs
    cases pk <;> simp only [validateOutboundInternal, vAuthInternal, vDisconnectInternal, vAckInternal, vPublishInternal,
      vPublishInternalWith, vSubscribeInternal, vUnsubscribeInternal, vSubscribeInternalWith, vUnsubscribeInternalWith,
      vConnectOutbound_nps, protocolError_nps, bind_nps, ok_nps, okIf_nps, sizeCheck_nps, true_and, implies_true]
  · cases pk with
    | connect c => exact vConnectOutbound_nps c
    | _ => cases hs

theorem validateInboundInternal_nps (p : Packet) : VRes.NPS (validateInboundInternal p) := by
  cases p <;> simp only [validateInboundInternal, vConnackInbound, protocolError_nps, bind_nps, ok_nps, okIf_nps, true_and,
    implies_true]

theorem okOrErr_np (v : VRes) (h : VRes.NPS v) : (okOrErr v).NP := by
  unfold okOrErr
  split
  · exact Res.NP.ok
  · exact absurd rfl h
  · exact Res.NP.err _

/-! ### CONNACK: the assertions of `apply_session_present_to_connection` -/

theorem isConnectOp_eq (e : Engine) (id : Nat) :
    isConnectOp e id = (match e.op? id with | some o => isConnectPacket o.packet | none => false) := by
  unfold isConnectOp
  cases e.op? id with
  | none => rfl
  | some o =>
    obtain ⟨_, pk, _, _, _, _, _, _⟩ := o
    cases pk <;> rfl

/-- what the CONNACK handler asserts: only the CONNECT is (or was) in flight -/
structure HQ (e : Engine) : Prop where
  highQ : e.highQ = []
  pendingPub : e.pendingPub = []
  pendingNonPub : e.pendingNonPub = []
  timeouts : e.timeouts = []
  wc : ∀ id ∈ e.pendingWC, isConnectOp e id = true

theorem HQ.of_eq {a b : Engine} (h : HQ a) (h1 : b.highQ = a.highQ := by rfl) (h2 : b.pendingPub = a.pendingPub := by rfl)
    (h3 : b.pendingNonPub = a.pendingNonPub := by rfl) (h4 : b.timeouts = a.timeouts := by rfl)
    (h5 : b.pendingWC = a.pendingWC := by rfl) (h6 : b.ops = a.ops := by rfl) : HQ b :=
  ⟨h1.trans h.highQ, h2.trans h.pendingPub, h3.trans h.pendingNonPub, h4.trans h.timeouts, fun id hi => by
    rw [isConnectOp_eq, show b.op? id = a.op? id from congrArg (·.lookup id) h6, ← isConnectOp_eq]; exact h.wc id (h5 ▸ hi)⟩

theorem HQ.setOp {e : Engine} (h : HQ e) (hok : e.core.Ok) {id : Nat} {o : Op} (o' : Op) (ho : e.op? id = some o) (hid : o'.id = o.id)
    (hp : isConnectPacket o'.packet = isConnectPacket o.packet) : HQ (e.setOp o') := by
  refine ⟨h.highQ, h.pendingPub, h.pendingNonPub, h.timeouts, fun j hj => ?_⟩
  have := h.wc j hj
  rw [isConnectOp_eq] at this ⊢
  simp only [Engine.setOp, Engine.op?]
  rw [hid, hok.id_eq ho, lookup_mapInsert]
  by_cases hj : j = id
  · subst hj
    rw [ho] at this
    rw [if_pos rfl]
    exact hp.trans this
  · rw [if_neg hj]
    exact this

theorem HQ.setDupFlag {e : Engine} (h : HQ e) (hok : e.core.Ok) (id : Nat) (v : Bool) : HQ (e.setDupFlag id v) := by
  rcases setDupFlag_cases e id v with ⟨_, he⟩ | ⟨o, ho, he⟩ <;> rw [he]
  · exact h
  · exact h.setOp hok _ ho rfl (setDup_class o.packet v).2.2.2.2

theorem HQ.clearQos2 {e : Engine} (h : HQ e) (hok : e.core.Ok) (id : Nat) : HQ (e.clearQos2 id) := by
  rcases clearQos2_cases e id with ⟨_, he⟩ | ⟨o, ho, he⟩ <;> rw [he]
  · exact h
  · exact h.setOp hok _ ho rfl rfl

theorem HQ.unbind {e : Engine} (h : HQ e) (hok : e.core.Ok) (id : Nat) : HQ (e.unbind id) := by
  rcases unbind_cases e id with ⟨_, he⟩ | ⟨o, pid, ho, _, he⟩ <;> rw [he]
  · exact h
  · exact (h.of_eq : HQ { e with allocated := mapErase e.allocated pid }).setOp hok _ ho rfl (withPacketId_class o.packet 0).2.2.2.1

theorem HQ.completeFailure {e : Engine} (h : HQ e) (x : Nat) (k : String) (hx : x ∉ e.pendingWC) : HQ (e.completeFailure x k).1 := by
  have s := completeFailure_same e x k
  obtain ⟨hops, hwc, _⟩ := completeFailure_ops e x k
  refine ⟨s.highQ.trans h.highQ, (completeFailure_tables e x k).1 h.pendingPub, (completeFailure_tables e x k).2 h.pendingNonPub,
    s.timeouts.trans h.timeouts, fun j hj => ?_⟩
  rw [hwc] at hj
  have := h.wc j hj
  rw [isConnectOp_eq] at this ⊢
  show (match (e.completeFailure x k).1.ops.lookup j with | some o => isConnectPacket o.packet | none => false) = true
  rw [hops, lookup_mapErase_ne _ _ _ (fun hh : j = x => hx (hh ▸ hj))]
  exact this

theorem HQ.failAll (k : String) (ids : List Nat) (e : Engine) (h : HQ e) (hx : ∀ x ∈ ids, x ∉ e.pendingWC) : HQ (e.failAll ids k).1 :=
  (failAll_keeps (fun x => HQ x ∧ x.pendingWC = e.pendingWC) k ids
    (fun x id hid hq => ⟨hq.1.completeFailure id k (hq.2 ▸ hx id hid), (completeFailure_ops x id k).2.1.trans hq.2⟩) e ⟨h, rfl⟩).1

theorem HQ.sessionRequeueStage {e : Engine} (h : HQ e) (hok : e.core.Ok) : HQ e.sessionRequeueStage :=
  (sessionRequeueStage_keeps (fun x => x.core.Ok ∧ HQ x)
    (fun x id hx => ⟨(unbind_pres x id hx.1).1, hx.2.unbind hx.1 id⟩) (fun x id hx => ⟨(clearQos2_pres x id hx.1).1, hx.2.clearQos2 hx.1 id⟩)
    (fun _ _ _ hx => ⟨hx.1, hx.2.of_eq⟩) e ⟨hok, h⟩).2

theorem HQ.sessionLostStage {e : Engine} (h : HQ e) (hok : e.core.Ok) (hdis : ∀ x ∈ e.resubQ, x ∉ e.pendingWC) :
    HQ e.sessionLostStage.1 ∧ e.sessionLostStage.2.NP := by
  -- up to the failures the assertions are untouched; what then fails was in the resubmit queue, so is not being written
  obtain ⟨⟨hokb, hb⟩, hwc⟩ := sessionRetain_keeps (fun x => (x.core.Ok ∧ HQ x) ∧ x.pendingWC = e.pendingWC)
    (fun x id hx => ⟨⟨(setDupFlag_pres x id false hx.1.1).1, hx.1.2.setDupFlag hx.1.1 id false⟩,
      (setDupFlag_same x id false).pendingWC.trans hx.2⟩)
    (fun _ _ _ hx => ⟨⟨hx.1.1, hx.1.2.of_eq⟩, hx.2⟩) e ⟨⟨hok, h⟩, rfl⟩
  have hx := HQ.failAll "OfflineQueuePolicyFailed" e.sessionSplit.2 e.sessionRetain hb
    (fun y hy => hwc ▸ hdis y ((partition_sublist _ e.resubQ).2.subset hy))
  rw [sessionLostStage_eq]
  exact ⟨hx.of_eq, failAll_np _ _ _ hokb⟩

theorem applySessionPresent_np (e : Engine) (present : Bool) (hok : e.core.Ok) (h : HQ e) (hdis : ∀ x ∈ e.resubQ, x ∉ e.pendingWC) :
    (e.applySessionPresent present).2.NP := by
  have hx1 : (if !present then e.sessionLostStage else (e, Res.ok)).1.core.Ok ∧ HQ (if !present then e.sessionLostStage else (e, Res.ok)).1 ∧
      (if !present then e.sessionLostStage else (e, Res.ok)).2.NP := by
    cases present with
    | true => exact ⟨hok, h, .ok⟩
    | false => exact ⟨(sessionLostStage_pres e hok).1, h.sessionLostStage hok hdis⟩
  rw [applySessionPresent_eq]
  generalize (if !present then e.sessionLostStage else (e, Res.ok)) = x1 at hx1 ⊢
  obtain ⟨hk, hq, hn⟩ := hx1
  have h3 := hq.sessionRequeueStage hk
  unfold sessionAsserts
  rw [h3.highQ, h3.pendingPub, h3.pendingNonPub, h3.timeouts, List.all_eq_true.mpr h3.wc]
  exact hn

theorem HQ.of_handshake {e : Engine} (hb : Big [] [] e.view) (hx : Extra false [] e.view) (hst : e.state = .pendingConnack)
    (hcu : e.connectUnsent = false) : HQ e := by
  obtain ⟨hc, _, hpp, hpn, hto⟩ := hb.h1 hst
  have hconn : ∀ id ∈ e.highQ ++ e.pendingWC, isConnectOp e id = true := by
    intro id hi
    obtain ⟨o, ho⟩ := ((hx.h1e hst).1 id hi).resolve_left List.not_mem_nil
    rw [isConnectOp_eq, show e.op? id = some o from ho]
    exact hc id hi o ho
  refine ⟨?_, hpp, hpn, List.isEmpty_iff.mp hto, fun id hi => hconn id (List.mem_append_right _ hi)⟩
  -- a CONNECT still in the queue would be unsent
  have hany : e.highQ.any (isConnectOp e) = false := (Bool.or_eq_false_iff.mp hcu).2
  exact List.eq_nil_iff_forall_not_mem.mpr fun x hm => List.any_eq_false.mp hany x hm (hconn x (List.mem_append_left _ hm))

theorem handleConnack_np (e : Engine) (c : Connack) (hinv : Inv e) (hx : Extra false [] e.view)
    (hcu : e.state = .pendingConnack → e.connectUnsent = false) : (e.handleConnack c).2.NP := by
  rcases handleConnack_cases e c with ⟨_, heq⟩ | ⟨x, hv, heq⟩ | ⟨_, _, heq⟩ | ⟨hst, _, _, heq⟩ <;> rw [heq]
  · exact .err _
  · exact okOrErr_np _ (hv ▸ validateInboundInternal_nps (.connack c))
  · exact .err _
  · unfold connackEnd
    refine np_ite ?_ .ok
    -- accepting the CONNACK touches neither the operations nor the queues and tables
    refine applySessionPresent_np _ _ (initSlowStart_pres (e := e) (e1 := e.connackEntered c) true rfl hinv.1).1 ?_ ?_ <;>
      rw [initSlowStart_shape]
    · exact (HQ.of_handshake hinv.2.1 hx hst (hcu hst)).of_eq
    · exact fun x hxm => (hx.x2 x (List.mem_append_right _ hxm)).1

/-! ### inbound packets -/

theorem handlePacket_np (e : Engine) (p : Packet) (hinv : Inv e) (hx : Extra false [] e.view)
    (hcu : e.state = .pendingConnack → e.connectUnsent = false) :
    (e.handlePacket p).2.NP ∧ ((e.handlePacket p).2.isOk = true → (e.handlePacket p).1.state ≠ .pendingConnack) := by
  have hh := handlePacket_handled e p
  generalize e.handlePacket p = x at hh ⊢
  cases hh with
  | connack c =>
    refine ⟨handleConnack_np e c hinv hx hcu, fun h => ?_⟩
    rcases handleConnack_state e c with hc | ⟨_, hc⟩
    · rw [hc]; decide
    · rw [hc] at h; cases h
  | refused k => exact ⟨Res.NP.err _, fun h => by cases h⟩
  | stray r pid opId hb h =>
    -- the `unwrap` / `panic!` calls are not reached: what a table binds is a tracked operation of the table's kind
    refine ⟨?_, fun _ => (stateBlocksAcks_false hb).2⟩
    rcases h with ⟨hl, ho⟩ | ⟨hl, hq⟩
    · obtain ⟨o, ho', _, _⟩ := hinv.2.1.tn pid opId hl
      rw [show e.op? opId = some o from ho'] at ho; cases ho
    · obtain ⟨o, ho', _, hk⟩ := hinv.2.1.tp pid opId hl
      have hq := hq o ho'
      cases hp : o.packet with
      | publish pb => rw [hp] at hq; cases hq
      | _ => rw [hp] at hk; cases hk
  | completes opId o c hb ho _ _ =>
    refine ⟨completeSuccess_np e opId _ hinv.1 nofun, fun _ => ?_⟩
    obtain ⟨sc, st, oc, np, heq, hst, _⟩ := completeSuccess_shape e opId (some c) ho
    rw [heq]
    rcases hst with rfl | ⟨_, rfl⟩
    · exact (stateBlocksAcks_false hb).2
    · exact nofun
  | marked opId o pid hb _ _ _ _ => exact ⟨Res.NP.ok, fun _ => (stateBlocksAcks_false hb).2⟩
  | noted ev q pd r hr =>
    rcases hr with ⟨rfl, hb⟩ | ⟨k, rfl⟩
    · exact ⟨Res.NP.ok, fun _ => (stateBlocksAcks_false hb).2⟩
    · exact ⟨Res.NP.err _, fun h => by cases h⟩
  | answered ev q a hb _ => exact ⟨Res.NP.ok, fun _ => (stateBlocksAcks_false hb).2⟩

theorem connectUnsent_inRes (e : Engine) (r : InResolver) : ({ e with inRes := r } : Engine).connectUnsent = e.connectUnsent := rfl

theorem handleOnePacket_np (e : Engine) (p : Packet) (hinv : Inv e) (hx : Extra false [] e.view)
    (hcu : e.state = .pendingConnack → e.connectUnsent = false) :
    (e.handleOnePacket p).2.NP ∧ ((e.handleOnePacket p).2.isOk = true → (e.handleOnePacket p).1.state ≠ .pendingConnack) := by
  rcases handleOnePacket_cases e p with h1 | ⟨ir, p', h1⟩ <;> rw [h1]
  · exact ⟨Res.NP.err _, fun hh => by cases hh⟩
  rcases dispatchPacket_cases { e with inRes := ir } p' with ⟨x, hv, h2⟩ | h2 <;> rw [h2]
  · exact ⟨okOrErr_np _ (hv ▸ validateInboundInternal_nps p'), fun _ hh => by cases hh⟩
  · have n := handlePacket_np { e with inRes := ir } p' (hinv.of_eq rfl rfl) hx hcu
    generalize Engine.handlePacket _ p' = y at n ⊢
    unfold haltUnlessOk
    by_cases hr : y.2.isOk = true
    · rw [if_neg (by simp [hr])]; exact ⟨Res.NP.ok, fun _ => n.2 hr⟩
    · rw [if_pos (by simp [hr])]; exact ⟨n.1, fun _ hh => by cases hh⟩

theorem handlePackets_np (ps : List Packet) (e : Engine) (hinv : Inv e) (hnd : e.state ≠ .disconnected)
    (hx : Extra false [] e.view) (hcu : e.state = .pendingConnack → e.connectUnsent = false) : (e.handlePackets ps).2.NP :=
  handlePackets_ind
    (fun x => (Inv x ∧ x.state ≠ .disconnected) ∧ Extra false [] x.view ∧ (x.state = .pendingConnack → x.connectUnsent = false))
    (·.2.NP) (fun _ _ => Res.NP.ok)
    (fun x p h => ⟨(handleOnePacket_np x p h.1.1 h.2.1 h.2.2).1, fun hok => ⟨handleOnePacket_inv x p h.1.1 h.1.2,
      handleOnePacket_extra x p h.1.1 h.2.1, fun hh => absurd hh ((handleOnePacket_np x p h.1.1 h.2.1 h.2.2).2 hok)⟩⟩)
    ps e ⟨⟨hinv, hnd⟩, hx, hcu⟩

theorem handleData_np (e : Engine) (bs : Bytes) (hinv : Inv e) (hx : Extra false [] e.view) : (e.handleData bs).2.NP := by
  rcases handleData_cases e bs with ⟨_, h⟩ | ⟨_, _, h⟩ | ⟨hnd, _, hcu, d, h⟩ <;> rw [h]
  · exact Res.NP.err _
  · exact Res.NP.err _
  · -- the CONNACK is read only once the CONNECT has left the queue
    have hn := handlePackets_np d.packets { e with dec := d.dec } (hinv.of_eq rfl rfl) hnd hx hcu
    unfold dataEnd
    refine np_ite hn ?_
    cases d.err with
    | some x => exact Res.NP.err _
    | none => exact Res.NP.ok

/-! ### service: seating the next operation -/

theorem acquireIdFor_keeps_op (e : Engine) (hok : e.core.Ok) (id : Nat) (o : Op) (ho : e.op? id = some o) :
    ((e.acquireIdFor id).1.op? id).isSome = true := by
  rcases acquireIdFor_cases e id with ⟨hn, _⟩ | ⟨_, _, _, hE⟩ | ⟨o', next, ho', _, _, ⟨_, hE⟩ | ⟨pid, _, hE⟩⟩
  · rw [ho] at hn; cases hn
  · rw [hE, ho]; rfl
  · rw [hE]; show (e.op? id).isSome = true; rw [ho]; rfl
  · rw [ho] at ho'
    cases ho'
    rw [hE]
    simp only [Engine.setOp, Engine.op?]
    rw [hok.id_eq ho, lookup_mapInsert_self]; rfl

theorem lastChance_nps (e4 : Engine) (packet : Packet) (r : Resolution) (hs : e4.settings.isSome = true ∨ isConnectPacket packet = true) :
    VRes.NPS (e4.lastChance packet r) := by
  unfold Engine.lastChance
  have h1 := validateOutboundInternal_nps packet e4.settings (e4.cfg.connect.sessionExpiry.getD 0) (some r) hs
  cases hv : validateOutboundInternal packet e4.settings (e4.cfg.connect.sessionExpiry.getD 0) (some r) with
  | error x => rw [hv] at h1; exact h1
  | ok u =>
    simp only []
    unfold validateForVersion
    split
    · exact okIf_nps _
    · exact ok_nps

def Seat.Fine : Seat → Prop
  | .ret _ r => r.NP
  | .cont _ => True
  | .encode e' => ∃ id, e'.current = some id

theorem rejectCurrent_fine (e4 : Engine) (id : Nat) (resolution : Resolution) (x : VErr) (hok : e4.core.Ok) :
    (e4.rejectCurrent id resolution x).Fine := by
  obtain ⟨res, hcases⟩ := rejectCurrent_cases e4 id resolution x
  rcases hcases with ⟨hE, _⟩ | hE | hE <;> rw [hE]
  · exact completeFailure_np ({ e4 with outRes := res, current := none } : Engine) id x.name hok
  · exact Res.NP.err _
  · trivial

theorem prepareCurrent_fine (e3 : Engine) (id : Nat) (o : Op) (hok : e3.core.Ok) (hc : e3.current = some id)
    (hs : e3.settings.isSome = true ∨ isConnectPacket (o.pubrel.getD o.packet) = true) : (e3.prepareCurrent id o).Fine := by
  obtain ⟨res, resolution, _, hcases⟩ := prepareCurrent_cases e3 id o
  rcases hcases with ⟨hv, _⟩ | ⟨x, hE⟩ | ⟨x, hE⟩ | ⟨steps, _, hE⟩
  · exact absurd hv (lastChance_nps ({ e3 with outRes := res } : Engine) (o.pubrel.getD o.packet) resolution hs)
  · rw [hE]; exact rejectCurrent_fine _ id resolution x hok
  · rw [hE]; cases x <;> exact Res.NP.err _
  · rw [hE]; exact ⟨id, hc⟩

theorem settings_of_connected (e : Engine) (hb : Big [] [] e.view) (hst : e.state = .connected) : e.settings.isSome = true := by
  obtain ⟨rm, hrm, _⟩ := hb.f hst
  have : e.settings.map (·.receiveMaximum) = some rm := hrm
  cases hs : e.settings with
  | none => rw [hs] at this; cases this
  | some s => rfl

/-- a CONNECT holds no PUBREL -/
theorem Extra.getD_pubrel_connect {filed : Bool} {W : List Nat} {v : View} (h : Extra filed W v) {id : Nat} {o : Op}
    (ho : v.ops.lookup id = some o) (hco : isConnectPacket o.packet = true) : isConnectPacket (o.pubrel.getD o.packet) = true := by
  cases hp : o.pubrel with
  | none => exact hco
  | some pr =>
    have hq := h.x8 id o ho (by rw [hp]; rfl)
    cases hpk : o.packet with
    | publish pb => rw [hpk] at hco; cases hco
    | _ => rw [hpk] at hq; cases hq

theorem seatCurrent_fine (e : Engine) (all : Bool) (hok : e.core.Ok) (hb : Big [] [] e.view) (h : Extra false [] e.view)
    (hall : all = true → e.state = .connected) (hrun : e.state = .connected ∨ e.state = .pendingConnack) : (e.seatCurrent all).Fine := by
  rcases seatCurrent_cases e all with ⟨⟨c, hc⟩, hS⟩ | ⟨hc, ⟨_, hS⟩ | ⟨e1, id, hdq, hrest⟩⟩
  · rw [hS]; exact ⟨c, hc⟩
  · rw [hS]; exact Res.NP.ok
  · obtain ⟨-, -, hcore, -, hseat⟩ := dequeue_extra e all hb h hc
    have hset : (e.dequeue all).1.settings = e.settings := by
      obtain ⟨_, _, _, he⟩ := dequeue_shape e all
      rw [he]
    rw [hdq] at hcore hseat hset
    have hops : e1.ops = e.ops := congrArg Core.ops hcore
    rcases hrest with ⟨_, hS⟩ | ⟨o0, ho0, hrest⟩
    · rw [hS]; trivial
    · obtain ⟨hfrom, hsetc⟩ := hseat id rfl
      have hok2 : ({ e1 with current := some id } : Engine).core.Ok := by
        show e1.core.Ok; rw [hcore]; exact hok
      have h3 := acquireIdFor_extra ({ e1 with current := some id } : Engine) id hok2 (hsetc ⟨o0, by rw [← hops]; exact ho0⟩)
      obtain ⟨-, -, f3, f4, -, -, -⟩ := acquireIdFor_frame ({ e1 with current := some id } : Engine) id
      have hok3 := ((acquireIdFor_pres ({ e1 with current := some id } : Engine) id) hok2).1
      have hres := acquireIdFor_result ({ e1 with current := some id } : Engine) id o0 ho0
      have hkeep := acquireIdFor_keeps_op ({ e1 with current := some id } : Engine) hok2 id o0 ho0
      have hlk := acquireIdFor_lookup ({ e1 with current := some id } : Engine) hok2 id id
      generalize ({ e1 with current := some id } : Engine).acquireIdFor id = ar at h3 f3 f4 hok3 hres hkeep hlk hrest
      rcases hrest with ⟨_, hS⟩ | ⟨_, ⟨hno, hS⟩ | ⟨o, ho3, hS⟩⟩ <;> rw [hS]
      · rcases hres with a | a
        · exact Res.NP.of_eq_ok a
        · exact a ▸ Res.NP.err _
      · rw [hno] at hkeep; cases hkeep
      · refine prepareCurrent_fine ar.1 id o hok3 f4 ?_
        rcases hrun with hcn' | hpc
        · left
          rw [show ar.1.settings = e1.settings from f3, show e1.settings = e.settings from hset]
          exact settings_of_connected e hb hcn'
        · right
          obtain ⟨x, hx, _, _, hcc, _⟩ := hlk o ho3
          have hmem : id ∈ e.highQ := hfrom.resolve_right (fun a => by have := hall a; rw [hpc] at this; cases this)
          have hco : isConnectPacket o.packet = true := by
            rw [hcc]
            exact (hb.h1 hpc).1 id (List.mem_append_left _ hmem) x (by show e.ops.lookup id = some x; rw [← hops]; exact hx)
          exact h3.getD_pubrel_connect ho3 hco

/-! ### service: the loop -/

theorem serviceQueueAux_np (all : Bool) (cap : Nat) (hcap : 4 ≤ cap) (fuel : Nat) (e : Engine) (hok : e.core.Ok) (hb : Big [] [] e.view)
    (h : Extra false [] e.view) (hall : all = true → e.state ≠ .pendingConnack) : (Engine.serviceQueueAux all cap fuel e).2.NP := by
  refine serviceQueueAux_ind all cap
    (fun e' => e'.core.Ok ∧ Big [] [] e'.view ∧ Extra false [] e'.view ∧ (all = true → e'.state ≠ .pendingConnack))
    (fun x => x.2.NP) (fun _ _ => Res.NP.ok) (fun e' hi hst => ?_) fuel e ⟨hok, hb, h, hall⟩
  obtain ⟨hok', hb', h', hall'⟩ := hi
  have hconn : all = true → e'.state = .connected := fun ha => hst.resolve_right (hall' ha)
  have so := seatCurrent_out e' all hok' hb' hconn
  have sp := seatCurrent_pres e' all
  have sx := seatCurrent_extra e' all hok' hb' h' hconn
  have sf := seatCurrent_fine e' all hok' hb' h' hconn hst
  generalize e'.seatCurrent all = seat at so sp sx sf ⊢
  cases seat with
  | ret e1 r => exact sf
  | cont e1 => exact ⟨(sp hok').1, so.1, sx, fun ha hpc => hall' ha (so.2.pc hpc)⟩
  | encode e1 =>
    have hste1 : e1.state = e'.state := so.2.2
    refine ⟨fun s hcond => ?_, fun _ _ _ _ _ => ⟨fun _ => Res.NP.err _, fun _ _ => Res.NP.ok, fun _ _ e3 hf => ?_⟩⟩
    · -- an operation is being written, it exists, and the buffer takes a fixed header
      exfalso
      obtain ⟨id, hc⟩ := sf
      obtain ⟨o, ho⟩ := sx.cur (show e1.state = .connected ∨ e1.state = .pendingConnack by rw [hste1]; exact hst) id hc
      rcases hcond with hn | ⟨id', hc', hn⟩ | hlt
      · rw [hc] at hn; cases hn
      · rw [hc] at hc'; cases hc'
        rw [show e1.op? id = some o from ho] at hn; cases hn
      · exact absurd hcap (Nat.not_le.mpr hlt)
    · have hok2 : (e1.encodeCurrent cap).1.core.Ok := (sp hok').1
      have ow := onFullyWritten_out _ e3 hf hok2 so.1 (by rw [show (e1.encodeCurrent cap).1.state = e1.state from rfl, hste1]; exact hst)
      exact ⟨(onFullyWritten_pres _ e3 hf hok2).1, ow.1, onFullyWritten_extra _ e3 hf hok2 sx,
        fun ha hpc => hall' ha (so.2.1.pc ((SV.of_frame rfl rfl rfl : SV e1 (e1.encodeCurrent cap).1).pc (ow.2.pc hpc)))⟩

theorem serviceQueue_np (e : Engine) (all : Bool) (cap prefill : Nat) (hcap : 4 ≤ cap) (hok : e.core.Ok) (hb : Big [] [] e.view)
    (h : Extra false [] e.view) (hall : all = true → e.state ≠ .pendingConnack) : (e.serviceQueue all cap prefill).2.NP := by
  rw [serviceQueue_eq]
  exact serviceQueueAux_np all cap hcap _ { e with outBytes := List.replicate (min prefill cap) 0 } hok hb h hall

/-! ### service: keep-alive, the whole call -/

theorem serviceKeepAlive_np (e : Engine) (hb : Big [] [] e.view) (hst : e.state = .connected) : e.serviceKeepAlive.2.NP := by
  rcases serviceKeepAlive_cases e with (hE | hE) | ⟨e2, h2, ⟨hn, _⟩ | ⟨s, _, hE⟩⟩
  · rw [hE]; exact Res.NP.ok
  · rw [hE]; exact Res.NP.err _
  · -- queueing the PINGREQ leaves the settings alone, and a connected engine has them
    have hs2 : e2.settings = e.settings := by rcases h2 with rfl | rfl <;> rfl
    have := settings_of_connected e hb hst
    rw [← hs2, hn] at this
    cases this
  · rw [hE]; exact Res.NP.ok

theorem serviceCore_np (e : Engine) (cap prefill : Nat) (hcap : 4 ≤ cap) (hinv : Inv e) (h : Extra false [] e.view) :
    (e.serviceCore cap prefill).2.NP := by
  obtain ⟨hok, hb, hD, hS⟩ := hinv
  rcases serviceCore_cases e cap prefill with ⟨_, hE⟩ | ⟨_, hE⟩ | ⟨_, hE⟩ | ⟨hst, hcd | ⟨d, _, hE⟩⟩ | ⟨hst, hE⟩
  · rw [hE]; exact Res.NP.ok
  · rw [hE]; exact Res.NP.err _
  · rw [hE]; exact processAckTimeouts_np _ e hok
  · -- a handshake in progress has its deadline
    obtain ⟨d, hd⟩ := Option.isSome_iff_exists.mp (h.h1e hst).2
    have hd' : e.connackDeadline = some d := hd
    rw [hcd.1] at hd'
    cases hd'
  · rw [hE]
    exact np_ite (Res.NP.err _) (serviceQueue_np e false cap prefill hcap hok hb h (fun hh => by cases hh))
  · rw [hE]
    have hinv0 := ((processAckTimeouts_hk (e.timeouts.length + 1) e).inv ⟨hok, hb, hD, hS⟩ (by rw [hst]; decide)).1
    have x0 := processAckTimeouts_extra (e.timeouts.length + 1) e h (by rw [hst]; decide)
    have n0 := processAckTimeouts_np (e.timeouts.length + 1) e hok
    have hst0 : (Engine.processAckTimeouts (e.timeouts.length + 1) e).1.state = .connected := by
      rw [processAckTimeouts_state _ e (by rw [hst]; decide)]; exact hst
    generalize Engine.processAckTimeouts (e.timeouts.length + 1) e = p0 at hinv0 x0 n0 hst0 ⊢
    refine andThen_elim (fun x => x.2.NP) (fun _ => n0) (fun _ => ?_)
    have hka := serviceKeepAlive_hk p0.1 (by rw [hst0]; decide)
    have hoka := (hka.stp.pres hinv0.1).1
    have ha := hka.stp.keeps hinv0.1 hinv0.2.1
    have sva := hka.sv
    have xa := serviceKeepAlive_extra p0.1 hinv0 x0
    have na := serviceKeepAlive_np p0.1 hinv0.2.1 hst0
    generalize p0.1.serviceKeepAlive = ka at hoka ha sva xa na ⊢
    refine andThen_elim (fun x => x.2.NP) (fun _ => na) (fun _ => ?_)
    have nb := serviceQueue_np ka.1 true cap prefill hcap hoka ha xa (fun _ hh => by
      have := sva.pc hh; rw [hst0] at this; cases this)
    have okb := ((serviceQueue_pres ka.1 true cap prefill) hoka).1
    generalize ka.1.serviceQueue true cap prefill = qb at nb okb ⊢
    exact andThen_elim (fun x => x.2.NP) (fun _ => nb) (fun _ => processAckTimeouts_np _ qb.1 okb)

theorem service_np (e : Engine) (cap prefill : Nat) (hcap : 4 ≤ cap) (hinv : Inv e) (h : Extra false [] e.view) :
    (e.service cap prefill).2.NP := by
  rcases service_cases e cap prefill with ⟨_, hE⟩ | ⟨k, _, hE⟩ <;> rw [hE]
  · exact serviceCore_np e cap prefill hcap hinv h
  · exact Res.NP.err _

/-! ### every event -/

/-- the only demand on the driver: a service call offers room for a fixed header (the encoder refuses less) -/
def Event.capOk : Event → Prop
  | .service _ cap _ => 4 ≤ cap
  | _ => True

theorem haltOnErr_np (x : Engine × Res) (h : x.2.NP) : (haltOnErr x).2.NP :=
  haltOnErr_snd x ▸ h

/-- C11, one event: from a state that satisfies both layers of the invariant no `unwrap()`, `assert!` or `panic!` of
    `protocol.rs` is reached -/
theorem step_np (e : Engine) (ev : Event) (hinv : Inv2 e) (hcap : ev.capOk) : (step e ev).2.result.NP := by
  cases ev with
  | user t u => exact handleUser_np (e.begin t) u
  | opened t d => exact haltOnErr_np _ (handleOpened_np (e.begin t) d)
  | closed t => exact haltOnErr_np _ (handleClosed_np (e.begin t) (hinv.begin t).1)
  | data t bs => exact haltOnErr_np _ (handleData_np (e.begin t) bs (hinv.begin t).1 (hinv.begin t).2)
  | writeDone t => exact haltOnErr_np _ (handleWriteCompletion_np (e.begin t) (hinv.begin t).1.1)
  | service t cap pre => exact service_np (e.begin t) cap pre hcap (hinv.begin t).1 (hinv.begin t).2
  | queryNext t => exact Res.NP.ok
  | reset t => exact Res.NP.ok

end GV
