/-
  Proofs/Filter.lean — the topic-filter scan of the code (`compute_topic_filter_properties`: one pass over the segments
  with five flags) decides exactly the grammar of the standard as Spec/Validity.lean writes it down (4.7.1 wildcards,
  4.8.2 shared subscriptions), for every byte string.
-/
import GV.Model.Validate
import GV.Spec.Validity
namespace GV
open Spec

theorem splitSlash_eq_levels : ∀ t : Bytes, splitSlash t = levels t
  | [] => rfl
  | b :: r => by
    have ih := splitSlash_eq_levels r
    unfold splitSlash levels
    rw [ih]
    cases levels r <;> rfl

/-! ### the scan in closed form -/

/-- `hasSharePrefix` of `filterStep` once these segments are scanned: the first is "$share" -/
def SP : List Bytes → Bool
  | s0 :: _ => s0 == shareBytes
  | [] => false

/-- `hasShareName`: "$share", then a non-empty segment without wildcard characters -/
def SN : List Bytes → Bool
  | s0 :: s1 :: _ => s0 == shareBytes && !s1.isEmpty && !hasWildChar s1
  | _ => false

/-- `props.isShared`: a share name (`SN`) with something behind it, a non-empty third segment or a fourth -/
def SH : List Bytes → Bool
  | s0 :: s1 :: s2 :: r => (s0 == shareBytes && !s1.isEmpty && !hasWildChar s1) && (!s2.isEmpty || !r.isEmpty)
  | _ => false

/-- `seenMlw`, a multi-level wildcard seen: the last segment scanned is "#" (the scan stops at the next one) -/
def mlwOf (pre : List Bytes) : Bool := pre.getLast? == some [35]

/-- the scan state after a prefix on which nothing was wrong -/
def goodState (pre : List Bytes) : FilterScan :=
  { props := { isValid := true, isShared := SH pre, hasWildcard := pre.any hasWildChar },
    hasSharePrefix := SP pre, hasShareName := SN pre, seenMlw := mlwOf pre, stop := false }

/-- `filterStep` goes from a good state with `seenMlw = mlw` to a good state: no "#" before `seg`, and a wildcard
    character only in a segment of length 1 -/
def stepGood (mlw : Bool) (seg : Bytes) : Bool := !mlw && (seg.length == 1 || !hasWildChar seg)

/-- `stepGood` at every segment; `mlw` is whether a "#" stands right before the list -/
def allGood : Bool → List Bytes → Bool
  | _, [] => true
  | mlw, s :: r => stepGood mlw s && allGood (s == [35]) r

theorem len_ne_one_not_hash (seg : Bytes) (h : ¬ seg.length = 1) : (seg == [35]) = false := by
  cases hh : seg == [35]
  · rfl
  · exact absurd (congrArg List.length (eq_of_beq hh)) h

/-- One step from a state that has neither stopped nor seen '#': the only way to go wrong is a wildcard inside a longer
    segment. -/
theorem filterStep_live (p : FilterProps) (sp sn : Bool) (i : Nat) (seg : Bytes) :
    filterStep ⟨p, sp, sn, false, false⟩ i seg =
      let ok := seg.length == 1 || !hasWildChar seg
      let sp' := sp || (i = 0 && seg == shareBytes)
      let sn' := sn || (i = 1 && sp' && !seg.isEmpty && !hasWildChar seg)
      ⟨⟨ok && p.isValid, (sn' && ((i = 2 && !seg.isEmpty) || i > 2)) || p.isShared, p.hasWildcard || hasWildChar seg⟩,
        sp', sn', seg == [35], !ok⟩ := by
  have hW : (seg.contains 35 || seg.contains 43) = hasWildChar seg := rfl
  unfold filterStep
  simp only [Bool.false_eq_true, ↓reduceIte, Bool.false_or, hW]
  generalize (sn || (decide (i = 1) && (sp || (decide (i = 0) && seg == shareBytes)) && !seg.isEmpty && !hasWildChar seg)) = sn'
  generalize (sn' && ((decide (i = 2) && !seg.isEmpty) || decide (i > 2))) = c
  by_cases h1 : seg.length = 1
  · rw [if_pos h1, h1]
    cases c <;> rfl
  · rw [if_neg h1, len_ne_one_not_hash seg h1, beq_false_of_ne h1]
    cases c <;> cases hasWildChar seg <;> rfl

theorem SP_snoc : ∀ (pre : List Bytes) (seg : Bytes), SP (pre ++ [seg]) = (SP pre || (pre.length = 0 && seg == shareBytes))
  | [], _ => rfl
  | a :: _, _ => (Bool.or_false (a == shareBytes)).symm

theorem SN_snoc : ∀ (pre : List Bytes) (seg : Bytes),
    SN (pre ++ [seg]) = (SN pre || (pre.length = 1 && SP (pre ++ [seg]) && !seg.isEmpty && !hasWildChar seg))
  | [], _ => rfl
  | [_], _ => rfl
  | _ :: _ :: _, _ => (Bool.or_false _).symm

theorem SH_snoc : ∀ (pre : List Bytes) (seg : Bytes),
    SH (pre ++ [seg]) = ((SN (pre ++ [seg]) && ((pre.length = 2 && !seg.isEmpty) || pre.length > 2)) || SH pre)
  | [], _ => rfl
  | [_], _ => by simp [SH]
  | [_, _], _ => by simp [SH, SN]
  | a :: b :: c :: r, seg => by
    have : (r ++ [seg]).isEmpty = false := by cases r <;> rfl
    simp only [SH, SN, List.cons_append, this]
    cases (a == shareBytes && !b.isEmpty && !hasWildChar b) <;> simp

theorem SH_false : ∀ l : List Bytes, SP l = false → SH l = false
  | [], _ => rfl
  | [_], _ => rfl
  | [_, _], _ => rfl
  | a :: _ :: _ :: _, h => by
    have h' : (a == shareBytes) = false := h
    rw [SH, h']; rfl

theorem mlwOf_snoc (pre : List Bytes) (seg : Bytes) : mlwOf (pre ++ [seg]) = (seg == [35]) := by
  unfold mlwOf
  simp

theorem any_hasWildChar_snoc (pre : List Bytes) (seg : Bytes) : (pre ++ [seg]).any hasWildChar = (pre.any hasWildChar || hasWildChar seg) := by
  simp [List.any_append]

/-- the step from a good state not behind a '#': the good state of the longer prefix, or stopped and invalid -/
theorem filterStep_goodState (pre : List Bytes) (seg : Bytes) (h : mlwOf pre = false) :
    filterStep (goodState pre) pre.length seg =
      { goodState (pre ++ [seg]) with props.isValid := stepGood false seg, stop := !stepGood false seg } := by
  unfold goodState
  rw [h, filterStep_live, SH_snoc, SN_snoc, SP_snoc, mlwOf_snoc, any_hasWildChar_snoc]
  simp only [Bool.and_true]
  rfl

theorem filterStep_good (pre : List Bytes) (seg : Bytes) (h : stepGood (mlwOf pre) seg = true) :
    filterStep (goodState pre) pre.length seg = goodState (pre ++ [seg]) := by
  cases hm : mlwOf pre <;> rw [hm] at h
  · rw [filterStep_goodState pre seg hm, h]
    rfl
  · exact nomatch h

theorem filterStep_bad (pre : List Bytes) (seg : Bytes) (h : stepGood (mlwOf pre) seg = false) :
    (filterStep (goodState pre) pre.length seg).stop = true ∧
    (filterStep (goodState pre) pre.length seg).props.isValid = false := by
  cases hm : mlwOf pre
  · rw [hm] at h
    rw [filterStep_goodState pre seg hm, h]
    exact ⟨rfl, rfl⟩
  · unfold filterStep goodState
    rw [hm]
    exact ⟨rfl, rfl⟩

theorem scan_stopped : ∀ (l : List Bytes) (i : Nat) (st : FilterScan), st.stop = true → scanSegs l i st = st
  | [], _, _, _ => rfl
  | s :: r, i, st, h => by
    have : filterStep st i s = st := by unfold filterStep; rw [if_pos h]
    rw [scanSegs, this]
    exact scan_stopped r (i + 1) st h

/-- **The scan, for every list of segments**: it ends in the good state of the whole list if every step was fine, and in a
    stopped, invalid state otherwise. -/
theorem scan_spec : ∀ (rest pre : List Bytes),
    (allGood (mlwOf pre) rest = true → scanSegs rest pre.length (goodState pre) = goodState (pre ++ rest)) ∧
    (allGood (mlwOf pre) rest = false → (scanSegs rest pre.length (goodState pre)).props.isValid = false)
  | [], pre => ⟨fun _ => (List.append_nil pre).symm ▸ rfl, fun h => nomatch h⟩
  | s :: r, pre => by
    have ih := scan_spec r (pre ++ [s])
    rw [mlwOf_snoc, List.length_append, List.append_assoc] at ih
    unfold allGood scanSegs
    cases hg : stepGood (mlwOf pre) s
    · have hb := filterStep_bad pre s hg
      rw [scan_stopped r _ _ hb.1]
      exact ⟨fun h => (nomatch h), fun _ => hb.2⟩
    · rw [filterStep_good pre s hg]
      exact ih

/-! ### the two descriptions of the wildcard rule -/

/-- a level that may be followed by another: no wildcard, or "+" alone -/
theorem stepGood_not_hash : ∀ s : Bytes, (stepGood false s && !(s == [35])) = (!hasWildChar s || s == [43])
  | [] => rfl
  | [x] => by
    by_cases h35 : x = 35
    · subst h35; rfl
    · by_cases h43 : x = 43
      · subst h43; rfl
      · simp [stepGood, hasWildChar, h35, Ne.symm h35, Ne.symm h43]
  | x :: y :: r => by
    have e : ∀ z : UInt8, (x :: y :: r == [z]) = false := fun z => by simp
    rw [e, e, Bool.or_false, Bool.not_false, Bool.and_true]
    rfl

theorem allGood_eq : ∀ (mlw : Bool) (l : List Bytes), l ≠ [] → allGood mlw l = (!mlw && levelsOk l)
  | mlw, [s], _ => by
    simp only [allGood, stepGood, levelsOk, Bool.and_true, Bool.beq_eq_decide_eq, Bool.or_comm]
  | mlw, s :: s' :: r, _ => by
    have e : levelsOk (s :: s' :: r) = ((!hasWildChar s || s == [43]) && levelsOk (s' :: r)) := rfl
    rw [allGood, allGood_eq (s == [35]) (s' :: r) (List.cons_ne_nil _ _), e, ← stepGood_not_hash]
    cases mlw <;> simp [stepGood, Bool.and_assoc]

theorem allGood_true_cons (s : Bytes) (r : List Bytes) : allGood true (s :: r) = false :=
  allGood_eq true (s :: r) (List.cons_ne_nil _ _)

theorem allGood_levelsOk : ∀ (l : List Bytes), l ≠ [] → allGood false l = levelsOk l :=
  allGood_eq false

/-! ### levels and their re-assembly -/

theorem levels_cons (b : UInt8) (r : Bytes) :
    levels (b :: r) = (match levels r with
      | [] => [[b]]
      | l :: ls => if b = 47 then [] :: l :: ls else (b :: l) :: ls) := by
  conv => lhs; unfold levels
  cases levels r <;> rfl

theorem levels_ne_nil : ∀ t : Bytes, levels t ≠ []
  | [] => by simp [levels]
  | b :: r => by
    rw [levels_cons]
    cases levels r with
    | nil => exact List.cons_ne_nil _ _
    | cons l ls => by_cases hb : b = 47 <;> simp [hb]

theorem levels_slashFree : ∀ (t : Bytes) (l : Bytes), l ∈ levels t → (47 : UInt8) ∉ l
  | [], l, h => by
    simp [levels] at h; rw [h]; simp
  | b :: r, l, h => by
    rw [levels_cons] at h
    cases hr : levels r with
    | nil => exact absurd hr (levels_ne_nil r)
    | cons l0 ls =>
      rw [hr] at h
      have ih := levels_slashFree r
      rw [hr] at ih
      by_cases hb : b = 47
      · simp only [hb, ↓reduceIte, List.mem_cons] at h
        rcases h with h | h | h
        · rw [h]; simp
        · exact ih l (by simp [h])
        · exact ih l (by simp [h])
      · simp only [hb, ↓reduceIte, List.mem_cons] at h
        rcases h with h | h
        · rw [h]
          intro hm
          rcases List.mem_cons.mp hm with e | e
          · exact hb e.symm
          · exact ih l0 (by simp) e
        · exact ih l (by simp [h])

theorem joinLevels_levels : ∀ t : Bytes, joinLevels (levels t) = t
  | [] => rfl
  | b :: r => by
    have ih := joinLevels_levels r
    rw [levels_cons]
    cases hr : levels r with
    | nil => exact absurd hr (levels_ne_nil r)
    | cons l0 ls =>
      rw [hr] at ih
      by_cases hb : b = 47
      · simp only [hb, ↓reduceIte]
        simp only [joinLevels]
        rw [ih]; simp
      · simp only [hb, ↓reduceIte]
        cases ls with
        | nil => simp only [joinLevels] at ih ⊢; rw [ih]
        | cons l1 ls' => simp only [joinLevels] at ih ⊢; rw [← ih]; simp

theorem levels_slashfree_single : ∀ l : Bytes, (47 : UInt8) ∉ l → levels l = [l]
  | [], _ => rfl
  | b :: r, h => by
    have hb : b ≠ 47 := fun e => h (by simp [e])
    have hr : (47 : UInt8) ∉ r := fun e => h (by simp [e])
    rw [levels_cons, levels_slashfree_single r hr]
    simp [hb]

theorem levels_slashfree_cons : ∀ (l rest : Bytes), (47 : UInt8) ∉ l → levels (l ++ 47 :: rest) = l :: levels rest
  | [], rest, _ => by
    show levels (47 :: rest) = [] :: levels rest
    rw [levels_cons]
    cases hr : levels rest with
    | nil => exact absurd hr (levels_ne_nil rest)
    | cons a as => simp
  | b :: r, rest, h => by
    have hb : b ≠ 47 := fun e => h (by simp [e])
    have hr : (47 : UInt8) ∉ r := fun e => h (by simp [e])
    show levels (b :: (r ++ 47 :: rest)) = (b :: r) :: levels rest
    rw [levels_cons, levels_slashfree_cons r rest hr]
    simp [hb]

theorem levels_joinLevels : ∀ (ls : List Bytes), ls ≠ [] → (∀ l ∈ ls, (47 : UInt8) ∉ l) → levels (joinLevels ls) = ls
  | [l], _, h => by
    simp only [joinLevels]
    exact levels_slashfree_single l (h l (by simp))
  | l :: l' :: r, _, h => by
    simp only [joinLevels]
    have ih := levels_joinLevels (l' :: r) (by simp) (fun x hx => h x (by simp [hx]))
    rw [List.append_assoc]
    show levels (l ++ 47 :: joinLevels (l' :: r)) = l :: l' :: r
    rw [levels_slashfree_cons l _ (h l (by simp)), ih]

theorem joinLevels_isEmpty : ∀ (c : Bytes) (r : List Bytes), (joinLevels (c :: r)).isEmpty = (c.isEmpty && r.isEmpty)
  | c, [] => by simp [joinLevels]
  | c, d :: r => by
    simp only [joinLevels]
    cases c <;> simp

theorem joinLevels_length_tail (a b : Bytes) (tail : List Bytes) :
    (joinLevels tail).length ≤ (joinLevels (a :: b :: tail)).length := by
  cases tail with
  | nil => simp [joinLevels]
  | cons c r => simp only [joinLevels, List.length_append]; omega

/-! ### the scan against the grammar -/

theorem shareBytes_eq : shareBytes = sharePrefix := rfl
theorem share_noWild : hasWildChar sharePrefix = false := by decide

theorem filterProps_bad (t : Bytes) (hg : (t.isEmpty || decide (t.length > maxStr) || t.contains 0) = false)
    (h : allGood false (levels t) = false) : (filterProps t).isValid = false := by
  have hs : (scanSegs (levels t) 0 {}).props.isValid = false := (scan_spec (levels t) []).2 h
  unfold filterProps
  rw [if_neg (ne_true_of_eq_false hg)]
  simp only [splitSlash_eq_levels]
  split
  · rfl
  · exact hs

theorem filterProps_good (t : Bytes) (hg : (t.isEmpty || decide (t.length > maxStr) || t.contains 0) = false)
    (h : allGood false (levels t) = true) :
    filterProps t =
      (if SP (levels t) && decide ((levels t).length > 1) && !SH (levels t) then
        { isValid := false, isShared := SH (levels t), hasWildcard := (levels t).any hasWildChar }
       else { isValid := true, isShared := SH (levels t), hasWildcard := (levels t).any hasWildChar }) := by
  have hs : scanSegs (levels t) 0 {} = goodState (levels t) := (scan_spec (levels t) []).1 h
  unfold filterProps
  rw [if_neg (ne_true_of_eq_false hg), splitSlash_eq_levels]
  simp only [hs, goodState, Bool.true_and]

/-- a filter put together from levels, against the rule for its levels -/
theorem plainFilterOk_joinLevels (c : Bytes) (r : List Bytes) (hsf : ∀ l ∈ c :: r, (47 : UInt8) ∉ l)
    (hlen : (joinLevels (c :: r)).length ≤ 65535) :
    plainFilterOk (joinLevels (c :: r)) = ((!c.isEmpty || !r.isEmpty) && levelsOk (c :: r)) := by
  unfold plainFilterOk
  rw [levels_joinLevels (c :: r) (List.cons_ne_nil _ _) hsf, joinLevels_isEmpty, decide_eq_true hlen, Bool.and_true,
    Bool.not_and]

/-- the standard's classification in terms of the levels alone, in the shape of the scan's verdict -/
theorem classify_eq (t : Bytes) (hg : (t.isEmpty || decide (t.length > maxStr) || t.contains 0) = false) :
    classify t =
      if levelsOk (levels t) && !(SP (levels t) && decide ((levels t).length > 1) && !SH (levels t)) then
        (if SH (levels t) then .shared ((levels t).any hasWildChar) else .plain ((levels t).any hasWildChar))
      else .invalid := by
  have hlen : t.length ≤ 65535 := by
    cases h : decide (t.length > maxStr)
    · exact Nat.le_of_not_lt (of_decide_eq_false h)
    · rw [h, Bool.or_true, Bool.true_or] at hg; exact nomatch hg
  have hsf := levels_slashFree t
  have hjoin := joinLevels_levels t
  unfold classify
  rw [if_neg (ne_true_of_eq_false hg)]
  cases hl : levels t with
  | nil => exact absurd hl (levels_ne_nil t)
  | cons first rest =>
    rw [hl] at hsf hjoin
    show (if first == sharePrefix then _ else _) = _
    cases hsh : first == sharePrefix
    · have hsp : SP (first :: rest) = false := hsh
      rw [hsp, SH_false _ hsp]
      simp only [Bool.false_eq_true, ↓reduceIte, Bool.false_and, Bool.not_false, Bool.and_true]
    · have hw : hasWildChar first = false := eq_of_beq hsh ▸ share_noWild
      have hsp : SP (first :: rest) = true := hsh
      rw [hsp]
      -- `classify` and `SH` look at the first three levels: "$share" alone, "$share/name", "$share/name/filter"
      match rest with
      | [] => simp only [levelsOk, SH, List.any, hw]; rfl
      | [name] => simp [SH]
      | name :: c :: r =>
        have hpf := plainFilterOk_joinLevels c r (fun l hm => hsf l (by simp [hm])) (by
          have := joinLevels_length_tail first name (c :: r)
          rw [hjoin] at this; omega)
        have hsh' : (first == shareBytes) = true := hsh
        simp only [↓reduceIte, List.isEmpty_cons, hpf, SH, levelsOk, List.any_cons, hw, hsh', Bool.true_and, Bool.not_false,
          Bool.true_or, Bool.false_or, Bool.or_false]
        generalize (!c.isEmpty || !r.isEmpty) = nz
        generalize levelsOk (c :: r) = lok
        cases name.isEmpty
        · cases hasWildChar name
          · cases nz <;> cases lok <;> rfl
          · simp
        · simp

/-- **The code's topic-filter scan decides the grammar of the standard**, for every byte string: invalid exactly when 4.7.1 /
    4.8.2 say so, and for a valid filter the two flags the validators act on - shared subscription, wildcard - are the
    standard's. -/
theorem filterProps_spec (t : Bytes) :
    match classify t with
    | .invalid => (filterProps t).isValid = false
    | .plain w => filterProps t = { isValid := true, isShared := false, hasWildcard := w }
    | .shared w => filterProps t = { isValid := true, isShared := true, hasWildcard := w } := by
  cases hg : (t.isEmpty || decide (t.length > maxStr) || t.contains 0)
  · rw [classify_eq t hg, ← allGood_levelsOk _ (levels_ne_nil t)]
    cases hag : allGood false (levels t)
    · exact filterProps_bad t hg hag
    · rw [filterProps_good t hg hag]
      cases SP (levels t) && decide ((levels t).length > 1) && !SH (levels t)
      · cases SH (levels t) <;> rfl
      · rfl
  · unfold classify filterProps
    rw [if_pos hg, if_pos hg]

/-- the submission check of one filter, in the standard's terms -/
theorem isValidFilter_eq (f : Bytes) (nl : Option Bool) :
    isValidFilter f nl = (match classify f with
      | .invalid => false
      | .plain _ => true
      | .shared _ => !(nl == some true)) := by
  have h := filterProps_spec f
  unfold isValidFilter
  cases hc : classify f with
  | invalid => rw [hc] at h; simp only [] at h ⊢; simp [h]
  | plain w => rw [hc] at h; simp only [] at h ⊢; simp [h]
  | shared w => rw [hc] at h; simp only [] at h ⊢; rw [h]; cases (nl == some true) <;> simp

/-- the send-time check of one filter, in the standard's terms -/
theorem isValidFilterInternal_eq (f : Bytes) (st : Settings) (nl : Option Bool) :
    isValidFilterInternal f st nl = (match classify f with
      | .invalid => false
      | .plain w => !w || st.wildcardSubsAvailable
      | .shared w => st.sharedSubsAvailable && !(nl == some true) && (!w || st.wildcardSubsAvailable)) := by
  have h := filterProps_spec f
  unfold isValidFilterInternal
  cases hc : classify f with
  | invalid => rw [hc] at h; simp only [] at h ⊢; simp [h]
  | plain w => rw [hc] at h; simp only [] at h ⊢; rw [h]; simp
  | shared w =>
    rw [hc] at h; simp only [] at h ⊢; rw [h]
    generalize (nl == some true) = n
    simp

end GV
